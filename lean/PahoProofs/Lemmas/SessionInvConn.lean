/- The log invariants `InvC` (C10) and `InvT` (C16), kept by every atomic action of `SessionAct.lean`. -/
import Paho.Model.SessionInv
import PahoProofs.Lemmas.SessionDefs
import PahoProofs.Lemmas.SessionActLog

namespace Paho
namespace SessAct

variable {v v' : View}

theorem vSockClose_ext_cfgOk (v : View) (r : Bool) :
    (vSockClose v r).ext = v.ext ∧ (vSockClose v r).cfgOk = v.cfgOk := by
  unfold vSockClose
  split <;> exact ⟨rfl, rfl⟩

theorem Act.ext_cfgOk_eq {k : Kind} (h : Act k v v') : v'.ext = v.ext ∧ v'.cfgOk = v.cfgOk := by
  have hreg := reg_cases (P := fun w => w.ext = v.ext ∧ w.cfgOk = v.cfgOk) ⟨rfl, rfl⟩ fun _ _ _ _ => ⟨rfl, rfl⟩
  cases h with
  | regW => exact hreg.1
  | unregW => exact hreg.2
  | writeDisc _ pkt rest k => exact vSockClose_ext_cfgOk (vWrite v pkt rest k) false
  | closeLost | closeBroker => exact vSockClose_ext_cfgOk v false
  | closeReplace _ x => exact vSockClose_ext_cfgOk { v with cstate := x } true
  | _ => exact ⟨rfl, rfl⟩

theorem Path.ext_cfgOk_eq {P : Kind → Bool} (h : Path P v v') : v'.ext = v.ext ∧ v'.cfgOk = v.cfgOk :=
  h.preserves (I := fun w => w.ext = v.ext ∧ w.cfgOk = v.cfgOk)
    (fun ha hi => ⟨ha.ext_cfgOk_eq.1.trans hi.1, ha.ext_cfgOk_eq.2.trans hi.2⟩) ⟨rfl, rfl⟩

/-- the packets handed to connection `c` -/
def qsOf (c : Nat) (log : List Ev) : List Bytes :=
  log.filterMap (fun e => match e with | .queued c' b => if c' = c then some b else none | _ => none)

def ConnFirst (qs : List Bytes) : Prop :=
  (∀ b, qs.head? = some b → b.head? = some 0x10) ∧ (qs.tail.all fun b => b.head? != some 0x10) = true

theorem qsOf_append (c : Nat) (l1 l2 : List Ev) : qsOf c (l1 ++ l2) = qsOf c l1 ++ qsOf c l2 :=
  List.filterMap_append

theorem qsOf_eq_nil {c : Nat} {l : List Ev} (h : ∀ b, Ev.queued c b ∉ l) : qsOf c l = [] := by
  rw [qsOf, List.filterMap_eq_nil_iff]
  intro e he
  cases e with
  | queued c' b => exact if_neg fun (hc : c' = c) => h b (hc ▸ he)
  | _ => rfl

theorem qsOf_single_queued (c c' : Nat) (b : Bytes) :
    qsOf c [Ev.queued c' b] = if c' = c then [b] else [] := by
  by_cases h : c' = c <;> simp [qsOf, h]

theorem ConnFirst_nil : ConnFirst [] := by simp [ConnFirst]

theorem ConnFirst_single {b : Bytes} (h : b.head? = some 0x10) : ConnFirst [b] := by
  simp [ConnFirst, h]

theorem ConnFirst_snoc {qs : List Bytes} {b : Bytes} (h : ConnFirst qs) (hne : qs ≠ [])
    (hb : b.head? ≠ some 0x10) : ConnFirst (qs ++ [b]) := by
  cases qs with
  | nil => exact absurd rfl hne
  | cons q qs =>
    obtain ⟨h1, h2⟩ := h
    refine ⟨h1, ?_⟩
    simp only [List.cons_append, List.tail_cons, List.all_append, Bool.and_eq_true] at h2 ⊢
    exact ⟨h2, by simp [hb]⟩

/-- C10 connect-first; `cfgOk`: the CONNECT packet can be encoded -/
structure InvC (v : View) : Prop where
  evle : ∀ e ∈ v.log, evConn e ≤ v.nconn
  first : v.cfgOk = true → ∀ c, ConnFirst (qsOf c v.log)
  started : v.cfgOk = true → ∀ c, v.sock = some c → qsOf c v.log ≠ []

/-- `InvC` without `evle`, which `InvL` also has and shows: `Act.invC` takes it as a hypothesis. -/
structure InvQ (v : View) : Prop where
  first : v.cfgOk = true → ∀ c, ConnFirst (qsOf c v.log)
  started : v.cfgOk = true → ∀ c, v.sock = some c → qsOf c v.log ≠ []

theorem InvQ.step (hi : InvQ v) (evs : List Ev) (hlog : v'.log = v.log ++ evs) (hcfg : v'.cfgOk = v.cfgOk)
    (hq : ∀ c b, Ev.queued c b ∉ evs) (hsock : ∀ c, v'.sock = some c → v.sock = some c) : InvQ v' := by
  constructor
  · intro hc c
    rw [hlog, qsOf_append, qsOf_eq_nil (hq c), List.append_nil]
    exact hi.first (hcfg ▸ hc) c
  · intro hc c hs
    rw [hlog, qsOf_append, qsOf_eq_nil (hq c), List.append_nil]
    exact hi.started (hcfg ▸ hc) c (hsock c hs)

theorem invQ_reg (hi : InvQ v) : InvQ (vRegW v) ∧ InvQ (vUnregW v) :=
  reg_cases hi fun c b _ _ => hi.step _ rfl rfl
    (fun _ _ hx => by rcases mem_regEvs hx with h | h <;> cases h) fun _ h => h

theorem invQ_vSockClose (r : Bool) (hi : InvQ v) : InvQ (vSockClose v r) := by
  cases hs : v.sock with
  | none => rw [vSockClose_none hs]; exact hi
  | some c =>
    rw [vSockClose_some hs]
    exact hi.step (closeEvs v c r) rfl rfl
      (fun _ _ h => by rcases mem_closeEvs h with h | h | h | h <;> cases h) nofun

theorem invQ_vWrite (pkt : OutPkt) (rest : List OutPkt) (k : Nat) (hi : InvQ v) : InvQ (vWrite v pkt rest k) := by
  cases hs : v.sock with
  | none => rw [vWrite_none hs]; exact { hi with }
  | some c => exact hi.step _ (vWrite_log hs pkt rest k) rfl (by simp) fun _ h => h

theorem invQ_onDisconnect (hi : InvQ v) (x : ConnState) (n : Nat) (b : Bool) :
    InvQ { v with cstate := x, log := v.log ++ [Ev.onDisconnect n b] } :=
  hi.step [Ev.onDisconnect n b] rfl rfl (by simp) fun _ h => h

theorem invQ_vEnq (pkt : OutPkt) (hf : pkt.bytes.head? ≠ some 0x10) (hi : InvQ v) : InvQ (vEnq v pkt) := by
  cases hs : v.sock with
  | none => rw [vEnq_none hs]; exact { hi with }
  | some c =>
    have hq : ∀ c', qsOf c' (vEnq v pkt).log = qsOf c' v.log ++ (if c = c' then [pkt.bytes] else []) :=
      fun c' => by rw [vEnq_log hs, qsOf_append, qsOf_single_queued]
    constructor
    · intro hcfg c'
      rw [hq]
      split
      · next hcc => exact hcc ▸ ConnFirst_snoc (hi.first hcfg c) (hi.started hcfg c hs) hf
      · rw [List.append_nil]
        exact hi.first hcfg c'
    · intro hcfg c' hs'
      rw [hq]
      exact fun h => hi.started hcfg c' hs' (List.append_eq_nil_iff.1 h).1

theorem qsOf_openEvs (v : View) (p : OutPkt) (c : Nat) :
    qsOf c (openEvs v (some p)) = if v.nconn + 1 = c then [p.bytes] else [] := by
  show qsOf c (_ ++ _) = _
  rw [qsOf_append, qsOf_eq_nil fun b hb => by rcases mem_callback hb with h | h <;> cases h]
  exact qsOf_single_queued c _ _

theorem invQ_vOpen (pkt : Option OutPkt)
    (hp : ∀ p, pkt = some p → p.bytes.head? = some 0x10) (hnone : pkt = none → v.cfgOk = false)
    (hle : ∀ e ∈ v.log, evConn e ≤ v.nconn) (hi : InvQ v) : InvQ (vOpen v pkt) := by
  constructor
  all_goals
    intro hc c
    cases pkt with
    | none => rw [show (vOpen v none).cfgOk = false from hnone rfl] at hc; cases hc
    | some p => ?_
  · rw [vOpen_log, qsOf_append, qsOf_openEvs]
    split
    · next hcc =>
      -- the old log does not mention the new connection
      rw [qsOf_eq_nil fun b hb => Nat.ne_of_lt (Nat.lt_succ_of_le (hle _ hb)) hcc.symm]
      exact ConnFirst_single (hp p rfl)
    · rw [List.append_nil]
      exact hi.first hc c
  · intro hs
    cases (Option.some.inj hs : v.nconn + 1 = c)
    rw [vOpen_log, qsOf_append, qsOf_openEvs, if_pos rfl]
    exact fun h => nomatch (List.append_eq_nil_iff.1 h).2

theorem Act.invQ {k : Kind} (h : Act k v v') (hle : ∀ e ∈ v.log, evConn e ≤ v.nconn) (hi : InvQ v) : InvQ v' := by
  cases h with
  | emit _ evs hn => exact hi.step evs rfl rfl (fun _ _ he => nomatch hn _ he) fun _ h => h
  | regW => exact (invQ_reg hi).1
  | unregW => exact (invQ_reg hi).2
  | enq _ pkt hf => exact invQ_vEnq pkt hf.2.2 hi
  | write _ pkt rest k => exact invQ_vWrite pkt rest k hi
  | writeDisc _ pkt rest k =>
    exact invQ_onDisconnect (invQ_vSockClose (v := vWrite v pkt rest k) false (invQ_vWrite pkt rest k hi)) _ _ _
  | closeLost | closeBroker => exact invQ_onDisconnect (invQ_vSockClose false hi) _ _ _
  | closeReplace _ x => exact invQ_vSockClose (v := { v with cstate := x }) true { hi with }
  | openConnect _ pkt _ _ _ hp => exact invQ_vOpen (some pkt) (by rintro p ⟨⟩; exact hp.2.2) nofun hle hi
  | openNoConnect _ _ _ _ hc => exact invQ_vOpen none nofun (fun _ => hc) hle hi
  -- the other actions leave the log, `cfgOk` and the socket alone
  | _ => exact { hi with }

theorem Act.invC {k : Kind} (h : Act k v v') (hle : ∀ e ∈ v'.log, evConn e ≤ v'.nconn) (hi : InvC v) : InvC v' :=
  have hq := h.invQ hi.evle ⟨hi.first, hi.started⟩
  ⟨hle, hq.first, hq.started⟩

/-- the socket-callback automaton agrees with the socket, the write registration and the number of connections so far -/
structure Sync (t : SockTrace) (sock : Option Nat) (reg : Bool) (n : Nat) : Prop where
  ok : t.ok = true
  openSock : t.openSock = sock
  reg : t.reg = reg
  seen : ∀ c ∈ t.seen, c ≤ n

theorem Sync.setReg {t : SockTrace} {c n : Nat} {b : Bool} (h : Sync t (some c) (!b) n) :
    Sync (t.step (cond b (.skRegW c) (.skUnregW c))) (some c) b n := by
  cases b <;> exact ⟨by simp [SockTrace.step, h.ok, h.openSock, h.reg], h.openSock, rfl, h.seen⟩

theorem Sync.close {t : SockTrace} {c n : Nat} (h : Sync t (some c) false n) :
    Sync (t.step (.skClose c)) none false n :=
  ⟨by simp [SockTrace.step, h.ok, h.openSock, h.reg], rfl, h.reg, h.seen⟩

/-- the new socket has a number not seen before -/
theorem Sync.open {t : SockTrace} {reg : Bool} {n : Nat} (h : Sync t none reg n) :
    Sync (t.step (.skOpen (n + 1))) (some (n + 1)) false (n + 1) := by
  have hnot : n + 1 ∉ t.seen := fun hm => Nat.not_succ_le_self n (h.seen _ hm)
  refine ⟨by simp [SockTrace.step, h.ok, h.openSock, hnot], rfl, rfl, ?_⟩
  intro c hc
  rcases List.mem_cons.1 hc with rfl | hc
  · exact Nat.le_refl _
  · exact Nat.le_succ_of_le (h.seen c hc)

/-- C16; says something only when `ext = true` -/
def InvT (v : View) : Prop := Sync (v.log.foldl SockTrace.step {}) v.sock v.regWrite v.nconn

theorem neutral_step {e : Ev} (h : neutral e = true) (t : SockTrace) : t.step e = t := by
  cases e <;> first | rfl | cases h

theorem foldl_step_eq (t : SockTrace) {evs : List Ev} (h : ∀ e ∈ evs, ∀ t : SockTrace, t.step e = t) :
    evs.foldl SockTrace.step t = t := by
  induction evs generalizing t with
  | nil => rfl
  | cons e evs ih =>
    rw [List.foldl_cons, h e List.mem_cons_self]
    exact ih t fun e he => h e (List.mem_cons_of_mem _ he)

theorem invT_step {evs : List Ev} (hi : InvT v) (hlog : v'.log = v.log ++ evs)
    (hev : ∀ e ∈ evs, ∀ t : SockTrace, t.step e = t) (hsock : v'.sock = v.sock)
    (hreg : v'.regWrite = v.regWrite) (hn : v'.nconn = v.nconn) : InvT v' := by
  rw [InvT, hlog, List.foldl_append, foldl_step_eq _ hev, hsock, hreg, hn]
  exact hi

theorem invT_reg (hext : v.ext = true) (hi : InvT v) : InvT (vRegW v) ∧ InvT (vUnregW v) := by
  refine reg_cases hi fun c b hc hr => ?_
  rw [InvT, hc, hr] at hi
  simp only [InvT, hext, if_true, List.foldl_append, List.foldl_cons, List.foldl_nil, hc]
  exact hi.setReg

theorem invT_vSockClose (r : Bool) (hext : v.ext = true) (hcb : v.inCb = false) (hi : InvT v) :
    InvT (vSockClose v r) := by
  cases hs : v.sock with
  | none => rw [vSockClose_none hs]; exact hi
  | some c =>
    rw [InvT, hs] at hi
    rw [vSockClose_some hs]
    simp only [InvT, closeEvs, hext, hcb, Bool.and_true, if_true, Bool.false_eq_true, if_false,
      List.foldl_append, List.foldl_cons, List.foldl_nil]
    cases hr : v.regWrite <;> rw [hr] at hi
    · exact hi.close
    · exact (hi.setReg (b := false)).close

theorem invT_vWrite (pkt : OutPkt) (rest : List OutPkt) (k : Nat) (hi : InvT v) :
    InvT (vWrite v pkt rest k) := by
  cases hs : v.sock with
  | none => rw [vWrite_none hs]; exact hi
  | some c => exact invT_step hi (vWrite_log hs pkt rest k) (List.forall_mem_singleton.2 fun _ => rfl) rfl rfl rfl

theorem invT_vEnq (pkt : OutPkt) (hi : InvT v) : InvT (vEnq v pkt) := by
  cases hs : v.sock with
  | none => rw [vEnq_none hs]; exact hi
  | some c => exact invT_step hi (vEnq_log hs pkt) (List.forall_mem_singleton.2 fun _ => rfl) rfl rfl rfl

theorem invT_vOpen (pkt : Option OutPkt) (hext : v.ext = true) (hcb : v.inCb = false)
    (hsock : v.sock = none) (hi : InvT v) : InvT (vOpen v pkt) := by
  rw [InvT, hsock] at hi
  rw [InvT, vOpen_log]
  simp only [openEvs, hext, hcb, if_true, Bool.false_eq_true, if_false, List.foldl_append, List.foldl_cons,
    List.foldl_nil]
  cases pkt <;> exact hi.open

theorem invT_onDisconnect (hi : InvT v) (x : ConnState) (n : Nat) (b : Bool) :
    InvT { v with cstate := x, log := v.log ++ [Ev.onDisconnect n b] } :=
  invT_step hi (evs := [Ev.onDisconnect n b]) rfl (List.forall_mem_singleton.2 fun _ => rfl) rfl rfl rfl

theorem Act.invT {k : Kind} (h : Act k v v') (hext : v.ext = true) (hs : InvS v)
    (hi : InvT v) : InvT v' := by
  have hcb := hs.inCb
  cases h with
  | emit _ evs hn => exact invT_step hi (evs := evs) rfl (fun e he => neutral_step (hn e he)) rfl rfl rfl
  | regW => exact (invT_reg hext hi).1
  | unregW => exact (invT_reg hext hi).2
  | enq _ pkt => exact invT_vEnq pkt hi
  | write _ pkt rest k => exact invT_vWrite pkt rest k hi
  | writeDisc _ pkt rest k =>
    exact invT_onDisconnect (invT_vSockClose (v := vWrite v pkt rest k) false hext hcb
      (invT_vWrite pkt rest k hi)) _ _ _
  | closeLost | closeBroker => exact invT_onDisconnect (invT_vSockClose false hext hcb hi) _ _ _
  | closeReplace _ x =>
    exact invT_vSockClose (v := { v with cstate := x }) true hext hcb hi
  | openConnect _ pkt h1 => exact invT_vOpen (some pkt) hext hcb h1 hi
  | openNoConnect _ h1 => exact invT_vOpen none hext hcb h1 hi
  -- the other actions leave the log, the socket, `regWrite` and `nconn` alone
  | _ => exact hi

end SessAct
end Paho
