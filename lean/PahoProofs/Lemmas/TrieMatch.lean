/-
Helper lemmas for C11: `iterMatchAux` against the specification's `matchLevels`.
-/
import PahoProofs.Lemmas.Trie

namespace Paho
namespace Node
variable {V : Type}

theorem lvlPlus_eq : lvlPlus = [Spec.plus] := rfl
theorem lvlHash_eq : lvlHash = [Spec.hash] := rfl

theorem flatMap_append_perm {α β : Type _} (l : List α) (f g : α → List β) :
    (l.flatMap (fun a => f a ++ g a)).Perm (l.flatMap f ++ l.flatMap g) := by
  induction l with
  | nil => exact .refl _
  | cons a l ih =>
    simp only [List.flatMap_cons, List.append_assoc]
    refine List.Perm.append_left _ ?_
    exact (List.Perm.append_left _ ih).trans (List.perm_append_comm_assoc _ _ _)

variable {β : Type} {normal first w : Bool} {a k part : Level} {ks more : List Level} {n : Node V} {c : Option V}
  {ch : List (Level × Node V)} {g : Node V → List β} {p q : List Level → Bool}

/-- `match o with | some n => g n | none => []` with a fixed matcher -/
def optL {β : Type} (o : Option (Node V)) (g : Node V → List β) : List β :=
  match o with
  | some n => g n
  | none => []

theorem flatMap_key
    (hnd : (ch.map (·.1)).Nodup) :
    ch.flatMap (fun kn => if kn.1 = a then g kn.2 else []) = optL (lookup a ch) g := by
  fun_induction lookup a ch with
  | case1 => rfl
  | case2 n tl =>
    -- no later child has the same key
    rw [List.flatMap_cons, if_pos rfl, List.flatMap_eq_nil_iff.2 fun kn hkn =>
      if_neg fun e => (List.nodup_cons.1 hnd).1 (List.mem_map.2 ⟨kn, hkn, e⟩)]
    exact List.append_nil _
  | case3 k n tl hk ih => rw [List.flatMap_cons, if_neg hk, ih (List.nodup_cons.1 hnd).2]; rfl

/-- `iterMatchAux` by recursion on the remaining topic levels, which the kernel evaluates on concrete tries -/
def matchR (normal : Bool) : Bool → List Level → Node V → List V
  | first, [], mk c ch =>
    c.toList ++ (if (normal || !first) = true then optL (lookup lvlHash ch) (fun n => n.content.toList) else [])
  | first, part :: more, mk _ ch =>
    (optL (lookup part ch) (matchR normal false more) ++
      (if (normal || !first) = true then optL (lookup lvlPlus ch) (matchR normal false more) else [])) ++
    (if (normal || !first) = true then optL (lookup lvlHash ch) (fun n => n.content.toList) else [])

theorem iterMatchAux_eq_matchR (normal : Bool) (rest : List Level) :
    ∀ (first : Bool) (t : Node V), iterMatchAux normal first rest t = matchR normal first rest t := by
  induction rest with
  | nil =>
    intro _ ⟨_, _⟩
    rw [iterMatchAux]
    rfl
  | cons part more ih =>
    intro first ⟨_, ch⟩
    rw [iterMatchAux, funext (ih false)]
    rfl

theorem iterMatch_eq_matchR (t : Node V) (topic : List UInt8) :
    iterMatch t topic = matchR (!startsDollar topic) true (splitTopic topic) t :=
  iterMatchAux_eq_matchR _ _ _ _

/-- `Spec.matchLevels`, with `w`: may the first filter level be a wildcard (the `$`-rule) -/
def matchW (w : Bool) : List Level → List Level → Bool
  | [], tl => tl.isEmpty
  | k :: ks, tl =>
    if k = [Spec.hash] then w
    else match tl with
      | [] => false
      | part :: more =>
        if k = [Spec.plus] then w && Spec.matchLevels ks more
        else if k = part then Spec.matchLevels ks more
        else false

theorem matchW_true : ∀ fl tl : List Level, matchW true fl tl = Spec.matchLevels fl tl
  | [], [] => rfl
  | [], _ :: _ => rfl
  | k :: ks, [] => by rw [matchW, Spec.matchLevels]
  | k :: ks, part :: more => by
    rw [matchW, Spec.matchLevels]
    by_cases h : k = [Spec.plus]
    · simp [h]
    · by_cases h' : k = part <;> simp [h, h']

/-- `#` occurs only as the last level -/
def hashOK : List Level → Prop
  | [] => True
  | l :: ls => (l = [Spec.hash] → ls = []) ∧ hashOK ls

theorem hashOK_of_valid : ∀ ks : List Level, Spec.validLevels ks = true → hashOK ks
  | [] => fun _ => trivial
  | [l] => fun _ => ⟨fun _ => rfl, trivial⟩
  | l :: l' :: ls => fun h => by
    simp only [Spec.validLevels, Bool.and_eq_true] at h
    refine ⟨?_, hashOK_of_valid (l' :: ls) h.2⟩
    rintro rfl
    exact absurd h.1 (by decide)

theorem hashOK_append : ∀ (p ks : List Level), hashOK (p ++ ks) → hashOK ks
  | [], _ => fun h => h
  | _ :: p, ks => fun h => hashOK_append p ks h.2

/-- values stored under the keys that satisfy `p`, in `toList` order -/
def sel (p : List Level → Bool) (t : Node V) : List V :=
  ((toListN [] t).filter (fun kv => p kv.1)).map (·.2)

theorem sel_mk :
    sel p (mk c ch) =
      (if p [] = true then c.toList else []) ++ ch.flatMap (fun kn => sel (fun ks => p (kn.1 :: ks)) kn.2) := by
  rw [sel, toListN_nil_mk, List.filter_append, List.map_append, List.filter_flatMap, List.map_flatMap]
  congr 1
  · cases c <;> cases h : p [] <;> simp [h]
  · exact flatMap_congr fun kn _ => by rw [List.filter_map, List.map_map]; rfl

theorem sel_ite (c : Prop) [Decidable c] (t : Node V) :
    sel (fun ks => if c then p ks else q ks) t = if c then sel p t else sel q t := by
  split <;> rfl

theorem sel_and (b : Bool) (t : Node V) :
    sel (fun ks => b && p ks) t = if b = true then sel p t else [] := by
  cases b
  · rw [sel, if_neg Bool.false_ne_true]; simp
  · rfl

theorem sel_false (t : Node V) : sel (fun _ => false) t = [] :=
  sel_and (p := fun _ => true) false t

/-- below a `#` child only its own content is stored -/
theorem sel_const_hash (hok : ∀ kv ∈ toListN [] n, hashOK ([Spec.hash] :: kv.1)) :
    sel (fun _ => w) n = if w = true then n.content.toList else [] := by
  cases w
  · exact sel_false n
  · obtain ⟨c, ch⟩ := n
    rw [sel_mk, if_pos rfl, List.flatMap_eq_nil_iff.2, List.append_nil]; rfl
    intro kn hkn
    rw [sel, List.map_eq_nil_iff, List.filter_eq_nil_iff]
    intro kv hkv
    exact absurd ((hok (kn.1 :: kv.1, kv.2) (cons_mem_toListN.2 ⟨kn.2, hkn, hkv⟩)).1 rfl) (List.cons_ne_nil _ _)

theorem sel_child_nil (hok : ∀ kv ∈ toListN [] n, hashOK (k :: kv.1)) :
    sel (fun ks => matchW w (k :: ks) []) n =
      if k = [Spec.hash] then (if w = true then n.content.toList else []) else [] := by
  simp only [matchW, sel_ite, sel_false]
  by_cases h : k = [Spec.hash]
  · subst h
    rw [if_pos rfl, if_pos rfl, sel_const_hash hok]
  · rw [if_neg h, if_neg h]

/-- `part` is no wildcard, so the three keys differ and at most one of the three lists is there -/
theorem sel_child_cons
    (hp1 : part ≠ [Spec.plus]) (hp2 : part ≠ [Spec.hash]) (hok : ∀ kv ∈ toListN [] n, hashOK (k :: kv.1)) :
    sel (fun ks => matchW w (k :: ks) (part :: more)) n =
      (if k = part then sel (Spec.matchLevels · more) n else []) ++
        ((if k = [Spec.plus] then (if w = true then sel (Spec.matchLevels · more) n else []) else []) ++
         (if k = [Spec.hash] then (if w = true then n.content.toList else []) else [])) := by
  simp only [matchW, sel_ite, sel_and, sel_false]
  by_cases h : k = [Spec.hash]
  · subst h
    rw [if_pos rfl, if_neg (Ne.symm hp2), if_neg (by decide), if_pos rfl, sel_const_hash hok]
    rfl
  · rw [if_neg h, if_neg h, List.append_nil]
    by_cases h' : k = [Spec.plus]
    · subst h'
      rw [if_pos rfl, if_neg (Ne.symm hp1), if_pos rfl]
      rfl
    · rw [if_neg h', if_neg h', List.append_nil]

theorem flatMap_key_if (hnd : (ch.map (·.1)).Nodup) (b : Bool) :
    ch.flatMap (fun kn => if kn.1 = a then (if b = true then g kn.2 else []) else []) =
      if b = true then optL (lookup a ch) g else [] := by
  cases b
  · exact List.flatMap_eq_nil_iff.2 fun _ _ => ite_self _
  · exact flatMap_key hnd

theorem optL_perm {f g : Node V → List β}
    (h : ∀ kn ∈ ch, (f kn.2).Perm (g kn.2)) : (optL (lookup a ch) f).Perm (optL (lookup a ch) g) := by
  cases hl : lookup a ch with
  | none => exact .refl _
  | some n => exact h _ (lookup_some_mem hl)

/-- The matcher returns, up to order, the values stored under the filters `matchW` accepts.
`sel_child_nil`/`sel_child_cons` split what each child adds to `sel` by the key that guards it (`part`, `+`, `#`); the
keys of a node being distinct, `flatMap_key` turns each of the three sums over the children into the one `lookup` of
`matchR`. -/
theorem matchR_perm (normal : Bool) : ∀ (t : Node V) (rest : List Level) (first : Bool), WFN t →
    (∀ kv ∈ toListN [] t, hashOK kv.1) → (∀ l ∈ rest, l ≠ lvlPlus ∧ l ≠ lvlHash) →
      (matchR normal first rest t).Perm (sel (fun k => matchW (normal || !first) k rest) t) := by
  intro t
  induction t using Node.ind with
  | h c ch ih =>
    intro rest first hwf hok hrest
    rw [WFN_mk] at hwf
    have hch : ∀ kn ∈ ch, ∀ kv ∈ toListN [] kn.2, hashOK (kn.1 :: kv.1) := fun kn hkn kv hkv =>
      hok (kn.1 :: kv.1, kv.2) (cons_mem_toListN.2 ⟨kn.2, hkn, hkv⟩)
    rw [sel_mk]
    cases rest with
    | nil =>
      rw [matchR, matchW, List.isEmpty_nil, if_pos rfl, lvlHash_eq, flatMap_congr fun kn hkn => sel_child_nil (hch kn hkn),
        flatMap_key_if (g := fun n => n.content.toList) hwf.1]
    | cons part more =>
      obtain ⟨⟨hp1, hp2⟩, hmore⟩ := List.forall_mem_cons.1 hrest
      have hrec : ∀ kn ∈ ch, (matchR normal false more kn.2).Perm (sel (Spec.matchLevels · more) kn.2) := by
        intro kn hkn
        have := ih kn hkn more false (hwf.2 kn hkn) (fun kv hkv => (hch kn hkn kv hkv).2) hmore
        rwa [Bool.not_false, Bool.or_true, funext (matchW_true · more)] at this
      rw [matchR, matchW, List.isEmpty_cons, if_neg Bool.false_ne_true, List.nil_append, lvlPlus_eq, lvlHash_eq,
        flatMap_congr fun kn hkn => sel_child_cons hp1 hp2 (hch kn hkn), List.append_assoc]
      refine .trans ?_ ((flatMap_append_perm _ _ _).trans (.append_left _ (flatMap_append_perm _ _ _))).symm
      rw [flatMap_key hwf.1, flatMap_key_if hwf.1, flatMap_key_if (g := fun n => n.content.toList) hwf.1]
      refine (optL_perm hrec).append (.append_right _ ?_)
      cases (normal || !first)
      · exact .refl _
      · exact optL_perm hrec

end Node
end Paho
