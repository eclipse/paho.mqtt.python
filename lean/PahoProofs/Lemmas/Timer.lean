/-
`Fr`: what every handler of the session model except `loop_misc()` and `tick` may do to the timer fields, to `cfg` and
to the log. Not an instance of `SessFrame.Frame`, whose `Upd` lets `lastIn`, `lastOut`, `pingT` and `sock` change
freely: so the routines are walked here themselves.
-/
import PahoProofs.Lemmas.SessionRefine
import PahoProofs.Lemmas.InBytes
namespace Paho
namespace TimerLemmas
open S SessAct

/-- neither a queued PINGREQ (`[0xC0, 0]` = `encSimple 0xC0`) nor a keep-alive `on_disconnect` (16 = `rcKeepalive`,
MQTT_ERR_KEEPALIVE) -/
def goodEv : Ev → Bool
  | .queued _ b => !(b == [0xC0, 0])
  | .onDisconnect n _ => !(n == 16)
  | _ => true

/-- `g`: the new events are `goodEv`. `newSock`: a handler that opens a socket (`reconnect`) leaves all three timers
reset, whatever it did before -/
structure Fr (g : Bool) (s s' : S) : Prop where
  now : s'.now = s.now
  cfg : s'.cfg = s.cfg
  lastIn : s'.lastIn = s.lastIn ∨ s'.lastIn = s.now
  lastOut : s'.lastOut = s.lastOut ∨ s'.lastOut = s.now
  pingT : s'.pingT = s.pingT ∨ s'.pingT = 0
  newSock : s.sock = none → s'.sock.isSome = true → s'.lastOut = s.now ∧ s'.lastIn = s.now ∧ s'.pingT = 0
  log : ∃ evs, s'.log = s.log ++ evs ∧ (g = true → ∀ e ∈ evs, goodEv e = true)

variable {g : Bool} {s t u : S}

theorem Fr.refl : Fr g s s :=
  ⟨rfl, rfl, .inl rfl, .inl rfl, .inl rfl, fun h h' => by simp [h] at h',
    [], (List.append_nil _).symm, fun _ _ he => nomatch he⟩

theorem keep_or {a b c n : Nat} (h1 : b = a ∨ b = n) (h2 : c = b ∨ c = n) : c = a ∨ c = n :=
  h2.elim (fun h => h ▸ h1) .inr

theorem Fr.trans (h1 : Fr g s t) (h2 : Fr g t u) : Fr g s u := by
  obtain ⟨n2, c2, i2, o2, p2, k2, e2, l2, g2⟩ := h2
  rw [h1.now] at n2 i2 o2 k2
  refine ⟨n2, c2.trans h1.cfg, keep_or h1.lastIn i2, keep_or h1.lastOut o2, keep_or h1.pingT p2, ?_, ?_⟩
  · intro hs hu
    cases ht : t.sock with
    | none => exact k2 ht hu
    | some c =>
      -- opened by the first part: the reset values survive the second
      obtain ⟨a, b, c⟩ := h1.newSock hs (by rw [ht]; rfl)
      exact ⟨o2.elim (·.trans a) id, i2.elim (·.trans b) id, p2.elim (·.trans c) id⟩
  · obtain ⟨e1, l1, g1⟩ := h1.log
    refine ⟨e1 ++ e2, by rw [l2, l1, List.append_assoc], fun hg e he => ?_⟩
    exact (List.mem_append.mp he).elim (g1 hg e) (g2 hg e)

theorem Fr.weaken {g : Bool} {s t : S} (h : Fr g s t) : Fr false s t :=
  ⟨h.now, h.cfg, h.lastIn, h.lastOut, h.pingT, h.newSock, by
    obtain ⟨e, hl, _⟩ := h.log; exact ⟨e, hl, fun h => nomatch h⟩⟩

def clk (s : S) := (s.now, s.cfg, s.lastIn, s.lastOut, s.pingT)

/-- the fields of a state that `Fr` speaks about -/
def tmr (s : S) := (clk s, s.sock, s.log)

/-- a use names the fields that change; the defaults leave the others alone -/
theorem Fr.set_r {t' : S} (h : Fr g s t) (hnow : t'.now = t.now := by rfl) (hcfg : t'.cfg = t.cfg := by rfl)
    (hin : t'.lastIn = t.lastIn ∨ t'.lastIn = t.now := by exact .inl rfl)
    (hout : t'.lastOut = t.lastOut ∨ t'.lastOut = t.now := by exact .inl rfl)
    (hp : t'.pingT = t.pingT ∨ t'.pingT = 0 := by exact .inl rfl)
    (hsock : t'.sock = t.sock ∨ t'.sock = none := by exact .inl rfl) (hlog : t'.log = t.log := by rfl) :
    Fr g s t' :=
  h.trans ⟨hnow, hcfg, hin, hout, hp,
    fun hs hs' => by rcases hsock with e | e <;> simp [e, hs] at hs',
    [], by rw [hlog, List.append_nil], fun _ _ he => nomatch he⟩

/-- `e` is `rfl` for an update of fields `Fr` does not speak about -/
theorem Fr.congr_r {t' : S} (h : Fr g s t) (e : tmr t' = tmr t) : Fr g s t' := by
  simp only [tmr, clk, Prod.mk.injEq] at e
  obtain ⟨⟨e1, e2, e3, e4, e5⟩, e6, e7⟩ := e
  exact h.set_r e1 e2 (.inl e3) (.inl e4) (.inl e5) (.inl e6) e7

theorem Fr.emit_r {e : Ev} (h : Fr g s t) (he : g = true → goodEv e = true) : Fr g s (t.emit e) :=
  h.trans ⟨rfl, rfl, .inl rfl, .inl rfl, .inl rfl, fun h1 h2 => by simp [emit, h1] at h2,
    [e], rfl, fun hg e' he' => by rw [List.mem_singleton.mp he']; exact he hg⟩

theorem Fr.emit {e : Ev} (h : Fr g s t) (he : goodEv e = true) : Fr g s (t.emit e) := h.emit_r fun _ => he

theorem ite_ind {α : Sort _} {P : α → Prop} {c : Prop} [Decidable c] {a b : α} (ha : P a) (hb : P b) :
    P (if c then a else b) := by
  split
  · exact ha
  · exact hb

theorem Fr.setInfo_r (i : Nat) (f : Info → Info) (h : Fr g s t) : Fr g s (t.setInfo i f) := h.congr_r rfl

theorem Fr.regW_r (h : Fr g s t) : Fr g s t.callSocketRegisterWrite := by
  unfold callSocketRegisterWrite
  split
  · exact h
  · exact ite_ind h (ite_ind (.emit (h.congr_r rfl) rfl) (h.congr_r rfl))

theorem Fr.unregW_r (x : Option Nat) (h : Fr g s t) : Fr g s (t.callSocketUnregisterWrite x) := by
  unfold callSocketUnregisterWrite
  split
  · exact h
  · exact ite_ind h (ite_ind (.emit (h.congr_r rfl) rfl) (h.congr_r rfl))

theorem regW_sock (t : S) : t.callSocketRegisterWrite.sock = t.sock := by
  unfold callSocketRegisterWrite
  split
  · rfl
  · exact ite_ind (P := fun u : S => u.sock = t.sock) rfl (ite_ind (P := fun u : S => u.sock = t.sock) rfl rfl)

theorem Fr.sockClose_r (r : Bool) (h : Fr g s t) : Fr g s (t.sockClose r) := by
  unfold sockClose
  split
  · exact h
  next c _ =>
    have h1 := (h.set_r (t' := { t with sock := none, ackd := false, discCalled := false })
      (hsock := .inr rfl)).unregW_r (some c)
    exact (ite_ind (ite_ind (h1.emit rfl) (h1.emit rfl)) h1).emit rfl

theorem Fr.dod_r {rc : Int} {b : Bool} (h : Fr g s t) (hrc : g = true → rc ≠ 16) : Fr g s (t.doOnDisconnect rc b) :=
  h.emit_r fun hg => by
    have := hrc hg
    simp only [goodEv, Bool.not_eq_true', beq_eq_false_iff_ne, ne_eq]
    omega

theorem Fr.nextSend_r (n : Nat) (h : Fr g s t) : Fr g s (t.nextSend n).1 := by
  unfold nextSend
  split
  · exact h
  · exact h.congr_r rfl

/-- the code is never `rcKeepalive` (16): `_loop_rc_handle` passes it on to on_disconnect, whose event has to stay `goodEv` -/
def FrRc (g : Bool) (t : S) (p : S × RC) : Prop := Fr g t p.1 ∧ p.2 ≠ 16

def FrH (g : Bool) (t : S) (p : S × HRes) : Prop := Fr g t p.1 ∧ ∀ r, p.2 = .rc r → r ≠ 16

theorem FrRc.of_eq {g : Bool} {t : S} {q p : S × RC} (h : FrRc g t q) (e : q = p) : FrRc g t p := e ▸ h
theorem FrH.of_eq {g : Bool} {t : S} {q p : S × HRes} (h : FrH g t q) (e : q = p) : FrH g t p := e ▸ h

theorem FrRc.intro {s1 : S} {rc : RC} (h : Fr g t s1) (hrc : rc ≠ 16 := by decide) : FrRc g t (s1, rc) := ⟨h, hrc⟩

theorem FrH.of_rc {p : S × RC} (h : FrRc g t p) : FrH g t (p.1, .rc p.2) :=
  ⟨h.1, fun _ e => HRes.rc.inj e ▸ h.2⟩

theorem FrH.intro {s1 : S} {rc : RC} (h : Fr g t s1) (hrc : rc ≠ 16 := by decide) : FrH g t (s1, .rc rc) :=
  .of_rc (.intro h hrc)

theorem FrH.raised {s1 : S} {n : String} (h : Fr g t s1) : FrH g t (s1, .raised n) := ⟨h, fun _ e => nomatch e⟩

/-- a callee after a prefix `h1` of the enclosing handler -/
theorem Fr.after (h2 : Fr g t u) (h1 : Fr g s t) : Fr g s u := h1.trans h2
theorem FrRc.after {p : S × RC} (h2 : FrRc g t p) (h1 : Fr g s t) : FrRc g s p := ⟨h1.trans h2.1, h2.2⟩
theorem FrH.after {p : S × HRes} (h2 : FrH g t p) (h1 : Fr g s t) : FrH g s p := ⟨h1.trans h2.1, h2.2⟩

theorem packetWrite_fr : ∀ (fuel : Nat) (t : S), FrRc g t (packetWrite fuel t)
  | 0, t => .intro (.emit .refl rfl)
  | fuel + 1, t => by
    rw [packetWrite]
    split
    · exact .intro .refl
    · extract_lets s0 data
      split
      next s1 d hn =>
      have h1 : Fr g t (s1, d).1 := hn ▸ .nextSend_r _ (.congr_r .refl rfl)
      split
      · exact .intro (.congr_r h1.regW_r rfl)
      · exact .intro (.congr_r h1 rfl)
      · extract_lets k1 s2 pkt' s3' s3 s4 s5 s6 s7
        have h2 : Fr g t s2 := by
          unfold s2
          split
          · exact h1.emit rfl
          · exact h1
        have h3 : Fr g t s3 := by
          refine ite_ind ?_ h2
          split
          · exact .emit (.setInfo_r _ _ (h2.emit rfl)) rfl
          · exact .emit (h2.emit rfl) rfl
        have h5 : Fr g t s5 := .sockClose_r _ (h3.set_r (hout := .inr rfl))
        exact ite_ind (ite_ind
            (ite_ind (.intro (.dod_r (ite_ind (h5.congr_r rfl) h5) fun _ => by decide))
              ((packetWrite_fr fuel s3).after h3))
            ((packetWrite_fr fuel _).after (h2.congr_r rfl)))
          (.intro (h1.set_r (hout := .inr rfl)))

theorem loopRcHandle_fr {rc : Int} (hrc : rc ≠ 16) : FrRc g t (t.loopRcHandle rc) := by
  unfold loopRcHandle
  refine ite_ind (ite_ind (.intro .refl hrc) ?_) (.intro .refl hrc)
  have h1 : Fr g t t.sockClose := .sockClose_r _ .refl
  exact ite_ind (.intro (.dod_r (h1.congr_r rfl) fun _ => by decide))
    (.intro (.dod_r (h1.congr_r rfl) fun _ => hrc) hrc)

theorem loopWrite_fr : FrRc g t t.loopWrite := by
  unfold loopWrite
  split
  · exact .intro .refl
  · split
    next s1 rc hpw =>
    obtain ⟨h1, hrc⟩ := (packetWrite_fr (g := g) _ _).of_eq hpw
    split
    next s2 rc2 heq =>
    have h2 : FrRc g t (s2, rc2) := FrRc.of_eq
      (ite_ind (.intro h1) (ite_ind ((loopRcHandle_fr hrc).after h1) (.intro h1))) heq
    exact ⟨ite_ind h2.1.regW_r (h2.1.unregW_r none), h2.2⟩

theorem enqS_fr {pkt : OutPkt} (hb : g = true → pkt.bytes ≠ [0xC0, 0]) : Fr g t (enqS t pkt) := by
  unfold enqS
  split
  · exact .emit_r (.congr_r .refl rfl) fun hg => by simpa [goodEv] using hb hg
  · exact .congr_r .refl rfl

theorem packetQueue_enq_fr {pkt : OutPkt} {direct : Bool} : FrRc g (enqS t pkt) (t.packetQueue pkt direct) := by
  rw [packetQueue_eq]
  exact ite_ind loopWrite_fr (.intro (Fr.regW_r .refl))

theorem packetQueue_fr {pkt : OutPkt} {direct : Bool} (hb : g = true → pkt.bytes ≠ [0xC0, 0]) :
    FrRc g t (t.packetQueue pkt direct) := packetQueue_enq_fr.after (enqS_fr hb)

/-- the PINGREQ is told from every other packet by its first byte -/
theorem ne_ping {x : UInt8} {b : Bytes} (h : b.head? = some x) (hx : x ≠ 0xC0) : b ≠ [0xC0, 0] :=
  fun e => hx (Option.some.inj (h.symm.trans (congrArg List.head? e)))

variable {mid qos : Nat} {topic payload : Bytes} {retain direct ok : Bool}

theorem sendPublish_fr {dup : Bool} {info uid : Option Nat} :
    FrRc g t (t.sendPublish mid topic payload qos retain dup info direct uid) := by
  unfold sendPublish
  split
  · exact .intro .refl
  · split
    · exact .intro (.emit .refl rfl)
    next bytes henc =>
      extract_lets s1
      have h1 : Fr g t s1 := by
        unfold s1
        split
        · exact .emit .refl rfl
        · exact .refl
      have h48 : Nat.testBit 48 5 = true := by decide
      exact (packetQueue_fr fun _ => ne_ping (InLemmas.encPublish_head henc)
        (InLemmas.b8_ne_of_bit5 (by simp [Nat.testBit_or, h48]))).after h1

theorem sendCmdMid_fr {command : Nat} (hc : b8 command ≠ 0xC0) :
    FrRc g t (t.sendCmdMid command mid direct) := by
  unfold sendCmdMid
  split
  · exact .intro (.emit .refl rfl)
  next bytes henc => exact packetQueue_fr fun _ => ne_ping (InLemmas.encCmdMid_head henc) hc

theorem sendPuback_fr : FrRc g t (t.sendPuback mid) := sendCmdMid_fr (by decide)
theorem sendPubrec_fr : FrRc g t (t.sendPubrec mid) := sendCmdMid_fr (by decide)
theorem sendPubcomp_fr : FrRc g t (t.sendPubcomp mid) := sendCmdMid_fr (by decide)

theorem sendPubrel_fr : FrRc g t (t.sendPubrel mid direct) := by
  unfold sendPubrel
  extract_lets s1
  have h1 : Fr g t s1 := by
    unfold s1
    split
    · exact .emit .refl rfl
    · exact .refl
  exact (sendCmdMid_fr (by decide)).after h1

theorem sendSimple_fr {command : Nat} (hc : g = true → b8 command ≠ 0xC0) : FrRc g t (t.sendSimple command) :=
  packetQueue_fr fun hg => ne_ping (x := b8 command) rfl (hc hg)

theorem updateInflight_fr : ∀ (fuel idx : Nat) (t : S), FrRc g t (t.updateInflight fuel idx)
  | 0, _, t => .intro .refl
  | fuel + 1, idx, t => by
    rw [updateInflight]
    split
    · exact .intro .refl
    · refine ite_ind (.intro .refl)
        (ite_ind (ite_ind ?_ (updateInflight_fr fuel _ t)) (.intro .refl))
      extract_lets m' s1
      split
      next s2 rc hu =>
      have h2 : FrRc g t (s2, rc) := (sendPublish_fr.of_eq hu).after (.congr_r .refl rfl)
      exact ite_ind h2 ((updateInflight_fr fuel _ s2).after h2.1)

theorem doOnPublish_fr : FrRc g t (t.doOnPublish mid) := by
  unfold doOnPublish
  extract_lets s1
  have h1 : Fr g t s1 := .emit .refl rfl
  split
  · exact .intro (h1.emit rfl)
  · extract_lets s2 s3 s4 s5
    have h4 : Fr g t s4 := .emit (.setInfo_r _ _ (.congr_r (h1.emit rfl) rfl)) rfl
    have h5 : Fr g t s5 := h4.congr_r rfl
    refine ite_ind (ite_ind ?_ (.intro h5)) (.intro h4)
    split
    next s6 rc hu =>
    have h6 := ((updateInflight_fr _ _ _).of_eq hu).after h5
    exact ite_ind h6 (.intro h6.1)

theorem handlePubackcomp_fr : FrRc g t (t.handlePubackcomp mid) :=
  ite_ind doOnPublish_fr (.intro .refl)

theorem handlePubrec_fr : FrRc g t (t.handlePubrec mid) :=
  ite_ind (sendPubrel_fr.after (.congr_r .refl rfl)) (.intro .refl)

theorem handleOnMessage_fr {m : InMsg} : Fr g t (t.handleOnMessage m).1 := by
  unfold handleOnMessage
  have h1 : Fr g t (t.emit (.onMessage m)) := .emit .refl rfl
  exact ite_ind (P := fun p : S × Bool => Fr g t p.1) (h1.congr_r rfl) h1

theorem handlePublish_fr {m : InMsg} : FrH g t (t.handlePublish m) := by
  unfold handlePublish
  extract_lets m'
  refine ite_ind (.intro .refl)
    (ite_ind ?_ (ite_ind ?_ (ite_ind ?_ (.intro .refl))))
  · split
    next s1 raised hu =>
    have h1 : Fr g t (s1, raised).1 := hu ▸ handleOnMessage_fr
    exact ite_ind (.raised h1) (.intro h1)
  · split
    next s1 raised hu =>
    have h1 : Fr g t (s1, raised).1 := hu ▸ handleOnMessage_fr
    refine ite_ind (.raised h1) (ite_ind (.intro h1) ?_)
    split
    next s2 rc hu2 => exact .of_rc ((sendPuback_fr.of_eq hu2).after h1)
  · split
    next s1 rc hu =>
    have h1 := sendPubrec_fr.of_eq (g := g) hu
    exact .intro (h1.1.congr_r rfl) h1.2

theorem handlePubrel_fr : FrH g t (t.handlePubrel mid) := by
  unfold handlePubrel
  split
  next s1 raised hu =>
  have h1 : Fr g t (s1, raised).1 := by
    split at hu
    · exact hu ▸ handleOnMessage_fr.after (.congr_r .refl rfl)
    · exact hu ▸ Fr.refl
  refine ite_ind (.raised h1) (ite_ind (.intro h1) ?_)
  split
  next s2 rc hu2 => exact .of_rc ((sendPubcomp_fr.of_eq hu2).after h1)

theorem connackResend_fr {rc : RC} (hrc : rc ≠ 16) :
    ∀ (fuel idx : Nat) (t : S), FrRc g t (t.connackResend fuel idx rc)
  | 0, _, t => .intro .refl hrc
  | fuel + 1, idx, t => by
    unfold connackResend
    split
    · exact .intro .refl hrc
    next m _ =>
      refine ite_ind (.intro .refl) (ite_ind ?_ ?_)
      · split
        next s1 r hu => exact .intro (loopWrite_fr.of_eq hu).1 (by decide)
      · split
        next s1 rc1 stop heq =>
        -- the three retransmissions: a record update, then the send
        let P : S × RC × Bool → Prop := fun q => FrRc g t (q.1, q.2.1)
        have send : ∀ {t' : S} {p : S × RC}, FrRc g t' p → tmr t' = tmr t → P (p.1, p.2, decide (p.2 ≠ rcSuccess)) :=
          fun h e => h.after (.congr_r .refl e)
        have h1 : P (s1, rc1, stop) := by
          rw [← heq]
          refine ite_ind (P := P) ?_ (ite_ind (P := P) ?_ (ite_ind (P := P) ?_ (FrRc.intro .refl hrc)))
          · extract_lets t'
            split
            next s2 r hu => exact send (sendPublish_fr.of_eq hu) rfl
          · extract_lets t'
            split
            next s2 r hu => exact send (sendPublish_fr.of_eq hu) rfl
          · extract_lets t'
            split
            next s2 r hu => exact send (sendPubrel_fr.of_eq hu) rfl
        refine ite_ind h1 ?_
        split
        next s3 _ hu => exact (connackResend_fr h1.2 fuel _ s3).after ((loopWrite_fr.of_eq hu).1.after h1.1)

theorem failQueuedQos0_fr : ∀ (l : List OutPkt) (t : S), Fr g t (t.failQueuedQos0 l)
  | [], t => .refl
  | p :: rest, t => by
    unfold failQueuedQos0
    extract_lets s1
    have h1 : Fr g t s1 := by
      refine ite_ind ?_ .refl
      split
      · exact .emit (.setInfo_r _ _ .refl) rfl
      · exact .refl
    exact h1.trans (failQueuedQos0_fr rest s1)

theorem tmr_resetIn (t : S) : tmr t.messagesReconnectResetIn = tmr t := by
  unfold messagesReconnectResetIn
  split <;> rfl

theorem Fr.fresh (h : Fr g t u) (ht : t.lastIn = t.now ∧ t.lastOut = t.now ∧ t.pingT = 0) :
    u.lastIn = u.now ∧ u.lastOut = u.now ∧ u.pingT = 0 := by
  rw [h.now]
  exact ⟨h.lastIn.elim (·.trans ht.1) id, h.lastOut.elim (·.trans ht.2.1) id, h.pingT.elim (·.trans ht.2.2) id⟩

/-- a socket may be opened in a state whose timers have just been reset -/
theorem Fr.open_r {t' : S} (h : Fr g s t) (ht : t.lastIn = t.now ∧ t.lastOut = t.now ∧ t.pingT = 0)
    (e : (clk t', t'.log) = (clk t, t.log)) : Fr g s t' := by
  simp only [clk, Prod.mk.injEq] at e
  obtain ⟨⟨e1, e2, e3, e4, e5⟩, e6⟩ := e
  rw [h.now] at ht
  exact ⟨e1.trans h.now, e2.trans h.cfg, .inr (e3.trans ht.1), .inr (e4.trans ht.2.1), .inr (e5.trans ht.2.2),
    fun _ _ => ⟨e4.trans ht.2.1, e3.trans ht.1, e5.trans ht.2.2⟩, e6 ▸ h.log⟩

theorem sendConnect_fr : FrRc g t t.sendConnect := by
  unfold sendConnect
  extract_lets a
  split
  · exact .intro (.emit .refl rfl)
  next bytes henc => exact packetQueue_fr fun _ => ne_ping (InLemmas.encConnect_head rfl rfl henc) (by decide)

theorem reconnect_fr : FrH g s (s.reconnect ok) := by
  unfold reconnect
  refine ite_ind (.raised .refl) ?_
  extract_lets s1 s2 s3 s4 s5 s6 c s7 s8 s9
  have h1 : Fr g s s1 := .set_r .refl (hp := .inr rfl)
  have h3 : Fr g s1 s3 := (failQueuedQos0_fr _ _).after (.sockClose_r true .refl)
  -- `pingT` is cleared at the start, the activity timers just before the socket is opened
  have p3 : s3.pingT = 0 := h3.pingT.elim id id
  have hs3 := h1.trans h3
  clear_value s3
  have h4 : Fr g s3 s4 := .set_r .refl (hin := .inr rfl) (hout := .inr rfl)
  have f4 : s4.lastIn = s4.now ∧ s4.lastOut = s4.now ∧ s4.pingT = 0 := ⟨rfl, rfl, p3⟩
  clear_value s4
  have h6 : Fr g s4 s6 := .emit (.congr_r .refl ((tmr_resetIn _).trans rfl)) rfl
  have hs6 : Fr g s s6 := hs3.trans (h4.trans h6)
  clear_value s6
  refine ite_ind (.raised hs6) ?_
  have h7 : Fr g s s7 := hs6.open_r (h6.fresh f4) rfl
  clear_value s7
  have h9 : Fr g s s9 := ite_ind (ite_ind (.emit (h7.emit rfl) rfl) (.emit (h7.emit rfl) rfl)) (h7.emit rfl)
  split
  next s10 rc hu => exact .of_rc ((sendConnect_fr.of_eq hu).after h9)

theorem connectAsync_fr : Fr g s s.connectAsync := .congr_r (.sockClose_r true .refl) rfl

theorem connect_fr : FrH g s (s.connect ok) := by
  unfold connect
  extract_lets s1
  have h1 : Fr g s s1 := ite_ind (.congr_r .refl rfl) .refl
  exact reconnect_fr.after (connectAsync_fr.after h1)

theorem handleDisconnect_fr {reason : Option Nat} : FrH g t (t.handleDisconnect reason) := by
  unfold handleDisconnect
  extract_lets bad s1 s2 s3
  unfold bad
  split
  next r hbad =>
    refine ⟨.refl, fun rc e => ?_⟩
    have e : r = .rc rc := e
    subst e
    split at hbad
    · split at hbad <;> cases hbad
    · cases hbad
  next hbad =>
    have hg : goodEv (.onDisconnect (reason.getD 0) true) = true := by
      cases reason with
      | none => rfl
      | some r =>
        by_cases h16 : r = 16
        · -- reason code 16 is not a DISCONNECT reason code
          subst h16
          have : Reason.unpack 14 16 = .error .valueError := rfl
          simp [this] at hbad
        · simp [goodEv, h16]
    have h1 : Fr g t t.sockClose := .sockClose_r _ .refl
    exact .intro (.emit (ite_ind (.congr_r h1 rfl) (.congr_r h1 rfl)) hg)

theorem handleConnack_fr {sp : Bool} {result : Nat} : FrH g t (t.handleConnack sp result ok) := by
  unfold handleConnack
  extract_lets pre s3 s1 shown s2
  unfold pre
  split
  next r hpre =>
    refine ⟨.refl, fun rc e => ?_⟩
    have e : r = .rc rc := e
    subst e
    split at hpre
    · split at hpre <;> cases hpre
    · cases hpre
  next hpre =>
    have h2 : Fr g t s2 := .emit (ite_ind (.congr_r .refl rfl) .refl) rfl
    refine ite_ind (ite_ind (.intro .refl) ?_)
      (ite_ind ?_ (ite_ind (.intro h2) (.intro h2)))
    · -- `_reconnect_in_handler` after the broker refused protocol 4
      have h3 : FrH g t (s3.reconnect ok) := reconnect_fr.after (.congr_r .refl rfl)
      split
      next s4 heq => exact .intro ((heq ▸ h3).1.emit rfl)
      · exact h3
    · split
      next s4 rc hu => exact .of_rc (((connackResend_fr (by decide) _ _ _).of_eq hu).after h2)

theorem packetHandle_fr {p : RxPkt} : FrH g t (t.packetHandle p ok) := by
  cases p with
  | connack sp rc => exact handleConnack_fr
  | publish m => exact handlePublish_fr
  | puback mid | pubcomp mid => exact .of_rc handlePubackcomp_fr
  | pubrec mid => exact .of_rc handlePubrec_fr
  | pubrel mid => exact handlePubrel_fr
  | suback mid code | unsuback mid => exact .intro (.emit .refl rfl)
  | pingreq => exact .of_rc (sendSimple_fr fun _ => by decide)
  | pingresp => exact .intro (.set_r .refl (hp := .inr rfl))
  | disconnect r => exact ite_ind handleDisconnect_fr (.intro .refl)
  | badcmd | malformed => exact .intro .refl

theorem loopRead_fr {item : RxItem} : FrH g t (t.loopRead item ok) := by
  unfold loopRead
  split
  · exact .intro .refl
  · have lost := loopRcHandle_fr (g := g) (t := t) (rc := rcConnLost) (by decide)
    split
    · exact .intro .refl
    · exact .of_rc lost
    · exact .of_rc lost
    next p =>
      have h := packetHandle_fr (g := g) (t := t) (p := p) (ok := ok)
      split
      next s1 n heq => exact .raised (heq ▸ h).1
      next s1 rc heq =>
        -- `_last_msg_in` is refreshed after every packet handled without an exception
        have hrc : rc ≠ 16 := (heq ▸ h).2 rc rfl
        have h1 : Fr g t { s1 with lastIn := s1.now } :=
          (heq ▸ h).1.set_r (hin := .inr rfl)
        refine ite_ind (.of_rc ((loopRcHandle_fr hrc).after h1)) (ite_ind (.intro h1) ?_)
        split
        · exact .intro h1
        · exact .intro h1

theorem publish_fr : Fr g t (t.publish qos topic payload retain) := by
  unfold publish
  split
  · exact .emit .refl rfl
  · exact .emit .refl rfl
  · extract_lets mid s1 infoIdx s2
    have h2 : Fr g t s2 := .congr_r .refl rfl
    have fin : ∀ {u : S} {rc : RC}, Fr g t u →
        Fr g t ((u.setInfo infoIdx fun x => { x with rc := rc }).emit (.ret rc (some mid))) :=
      fun h => .emit (.setInfo_r _ _ h) rfl
    refine ite_ind ?_ (ite_ind (fin h2) (ite_ind (fin h2) (ite_ind ?_ (fin (h2.congr_r rfl)))))
    · split
      next s3 rc hu => exact fin ((sendPublish_fr.of_eq hu).1.after h2)
    · split
      next s3 rc hu =>
        have h3 := (sendPublish_fr.of_eq hu).1.after (h2.congr_r rfl)
        exact fin (ite_ind (h3.congr_r rfl) h3)

/-- the tail of `subscribe`, `unsubscribe` and `disconnect` -/
theorem queueRet_fr {s1 : S} {pkt : OutPkt} {x : UInt8} {m : Option Nat} (h1 : Fr g t s1)
    (hh : pkt.bytes.head? = some x) (hx : x ≠ 0xC0) :
    Fr g t (match s1.packetQueue pkt with | (s2, rc) => s2.emit (.ret rc m)) := by
  split
  next s2 rc hu => exact .emit (((packetQueue_fr fun _ => ne_ping hh hx).of_eq hu).1.after h1) rfl

theorem subscribe_fr : Fr g t (t.subscribe topic qos) := by
  unfold subscribe
  refine ite_ind (.emit .refl rfl) (ite_ind (.emit .refl rfl) (ite_ind (.emit .refl rfl) ?_))
  split
  · exact .emit .refl rfl
  · extract_lets mid s1
    split
    · exact .emit (.congr_r .refl rfl) rfl
    next bytes henc => exact queueRet_fr (.congr_r .refl rfl) (InLemmas.encSubscribe_head henc) (by decide)

theorem unsubscribe_fr : Fr g t (t.unsubscribe topic) := by
  unfold unsubscribe
  refine ite_ind (.emit .refl rfl) ?_
  split
  · exact .emit .refl rfl
  · extract_lets mid s1
    split
    · exact .emit (.congr_r .refl rfl) rfl
    next bytes henc => exact queueRet_fr (.congr_r .refl rfl) (InLemmas.encUnsubscribe_head henc) (by decide)

theorem ack_fr : Fr g t (t.ack mid qos) := by
  unfold ack
  refine ite_ind (ite_ind ?_ (ite_ind ?_ (.emit .refl rfl))) (.emit .refl rfl)
  · split
    next s1 rc hu => exact .emit (sendPuback_fr.of_eq hu).1 rfl
  · split
    next s1 rc hu => exact .emit (sendPubcomp_fr.of_eq hu).1 rfl

theorem disconnect_fr : Fr g t t.disconnect := by
  unfold disconnect
  split
  · exact .emit (.congr_r .refl rfl) rfl
  · extract_lets s1
    split
    · exact .emit (.congr_r .refl rfl) rfl
    next bytes henc => exact queueRet_fr (.congr_r .refl rfl) (InLemmas.encDisconnect_head henc) (by decide)

theorem goodEv_hresEv (r : HRes) : goodEv (hresEv r) = true := by cases r <;> rfl

theorem step_fr (t : S) (op : Op) (h1 : op ≠ .loopMisc) (h2 : ∀ ms, op ≠ .tick ms) : Fr g t (t.step op) := by
  cases op with
  | connect ok => exact .emit connect_fr.1 (goodEv_hresEv _)
  | reconnect ok => exact .emit reconnect_fr.1 (goodEv_hresEv _)
  | connectAsync => exact connectAsync_fr
  | rx item ok => exact .emit loopRead_fr.1 (goodEv_hresEv _)
  | publish q tp p r => exact publish_fr
  | subscribe tp q => exact subscribe_fr
  | unsubscribe tp => exact unsubscribe_fr
  | disconnect => exact disconnect_fr
  | loopWrite => exact .emit loopWrite_fr.1 rfl
  | loopMisc => exact absurd rfl h1
  | tick ms => exact absurd rfl (h2 ms)
  | send sc | raiseOnMessage n => exact .congr_r .refl rfl
  | ack m q => exact ack_fr

end TimerLemmas
end Paho
