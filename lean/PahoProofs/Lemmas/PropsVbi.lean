/-
The byte-level primitives of Paho/Model/Bytes.lean (remaining length / variable byte integers, two-byte integers,
length-prefixed fields) against the specification's encodings; for C17 and C04.
-/
import Paho.Model.Props
import Paho.Spec.Props

namespace Paho.PropsLemmas
open Paho Paho.Spec

theorem lor128 : ∀ x < 128, x ||| 128 = x + 128 := fun _ h => Nat.or_two_pow_eq_add_of_lt (n := 7) h
theorem and127_lo : ∀ k < 128, k &&& 127 = k := fun _ h => Nat.and_two_pow_sub_one_of_lt_two_pow (n := 7) h
theorem and128_lo : ∀ k < 128, k &&& 128 = 0 := by decide +kernel
theorem and127_hi : ∀ k < 128, (k + 128) &&& 127 = k := fun k h =>
  (Nat.and_two_pow_sub_one_eq_mod (k + 128) 7).trans ((Nat.add_mod_right k 128).trans (Nat.mod_eq_of_lt h))
theorem and128_hi : ∀ k < 128, (k + 128) &&& 128 = 128 := by decide +kernel

theorem b8_toNat (k : Nat) (h : k < 256) : (b8 k).toNat = k :=
  UInt8.toNat_ofNat'.trans (Nat.mod_eq_of_lt h)

theorem ofNat_toNat (k : Nat) (h : k < 256) : (UInt8.ofNat k).toNat = k := b8_toNat k h

theorem bind_ok {ε α β : Type} {x : Except ε α} {f : α → Except ε β} {b : β} :
    (x >>= f) = .ok b ↔ ∃ a, x = .ok a ∧ f a = .ok b := by
  cases x with
  | error e => exact ⟨fun h => (by cases h), fun ⟨_, h, _⟩ => (by cases h)⟩
  | ok a => exact ⟨fun h => ⟨a, rfl, h⟩, fun ⟨_, h, hf⟩ => (by cases h; exact hf)⟩

/-- a range check that let a value through -/
theorem ite_ok {ε α : Type} {c : Prop} [Decidable c] {a x : α} {e : ε}
    (h : (if c then .ok a else .error e : Except ε α) = .ok x) : c ∧ x = a := by
  split at h
  · exact ⟨‹c›, (Except.ok.inj h).symm⟩
  · cases h

/-- one turn of the loop of `_pack_remaining_length` -/
theorem remLenEnc_step (n : Nat) :
    remLenEnc n = if n / 128 > 0 then b8 (n % 128 + 128) :: remLenEnc (n / 128) else [b8 (n % 128)] := by
  rw [remLenEnc]
  simp only [Gen.rlBase, Gen.rlFlag, lor128 _ (Nat.mod_lt n (by decide)), Nat.reduceGT, and_true, dite_eq_ite]

theorem remLenEnc_lt (n : Nat) (h : n < 128) : remLenEnc n = [b8 n] := by
  rw [remLenEnc_step, Nat.div_eq_of_lt h, if_neg (Nat.lt_irrefl 0), Nat.mod_eq_of_lt h]

theorem remLenEnc_ge (n : Nat) (h : 128 ≤ n) :
    remLenEnc n = b8 (n % 128 + 128) :: remLenEnc (n / 128) :=
  (remLenEnc_step n).trans (if_pos (Nat.div_pos h (by decide)))

/-- the specification's four-way table follows the same digit recursion as that loop -/
theorem vbi_ge (n : Nat) (h1 : 128 ≤ n) (h : n < 268435456) :
    Spec.vbi n = UInt8.ofNat (n % 128 + 128) :: Spec.vbi (n / 128) := by
  simp only [Spec.vbi, Nat.div_lt_iff_lt_mul (show 0 < 128 by decide), Nat.div_div_eq_div_mul, Nat.not_lt.mpr h1,
    if_false, Nat.reduceMul, h, if_true, apply_ite (List.cons _)]

theorem vbi_ne_nil (n : Nat) : Spec.vbi n ≠ [] := by
  simp only [Spec.vbi, ne_eq, apply_ite (· = []), reduceCtorEq, ite_self, not_false_eq_true]

theorem remLenEnc_eq_vbi (n : Nat) (h : n ≤ 268435455) : remLenEnc n = Spec.vbi n := by
  induction n using Nat.strongRecOn with | _ n ih =>
  by_cases h1 : n < 128
  · rw [remLenEnc_lt n h1, Spec.vbi, if_pos h1]; rfl
  · have h128 := Nat.le_of_not_lt h1
    rw [remLenEnc_ge n h128, vbi_ge n h128 (Nat.lt_succ_of_le h),
      ih (n / 128) (Nat.div_lt_self (by omega) (by decide)) (by omega)]
    rfl

theorem remLenEncChecked_eq (n : Nat) :
    remLenEncChecked n = if n ≤ 268435455 then .ok (Spec.vbi n) else .error .valueError := by
  by_cases h : n ≤ 268435455
  · rw [if_pos h, ← remLenEnc_eq_vbi n h]
    exact if_neg (by simpa [Gen.rlGuardCmp, Gen.rlGuardMax, Cmp.evalNat] using h)
  · rw [if_neg h]
    exact if_pos (by simpa [Gen.rlGuardCmp, Gen.rlGuardMax, Cmp.evalNat] using h)

theorem vbiEnc_eq (n : Int) :
    vbiEnc n = if 0 ≤ n ∧ n ≤ 268435455 then .ok (Spec.vbi n.toNat) else .error .valueError := by
  show (if 0 ≤ n ∧ n ≤ 268435455 then Except.ok (remLenEnc n.toNat) else _) = _
  split
  · rename_i h; rw [remLenEnc_eq_vbi _ (by omega)]
  · rfl

theorem vbiEnc_nat (n : Nat) (h : n ≤ 268435455) : vbiEnc (n : Int) = .ok (Spec.vbi n) := by
  rw [vbiEnc_eq, if_pos (by omega), Int.toNat_natCast]

theorem packU16_eq (n : Int) :
    packU16 n = if 0 ≤ n ∧ n ≤ 65535 then .ok (u16be n.toNat) else .error .structError := rfl

theorem packU16_ok {n : Nat} (h : n ≤ 65535) : packU16 n = .ok (u16be n) := by
  rw [packU16_eq, if_pos ⟨Int.natCast_nonneg n, Int.ofNat_le.2 h⟩, Int.toNat_natCast]

theorem str16_eq (b : Bytes) :
    str16 b = if b.length ≤ 65535 then .ok (u16be b.length ++ b) else .error .structError := by
  unfold str16
  rw [packU16_eq]
  by_cases h : b.length ≤ 65535
  · rw [if_pos (by omega), if_pos h]; rfl
  · rw [if_neg (by omega), if_neg h]; rfl

theorem dec_last (k : Nat) (hk : k < 128) (tl : Bytes) (m v u : Nat) :
    vbiDecAux (b8 k :: tl) m v u = .ok (v + k * m, u + 1) := by
  simp only [vbiDecAux, b8_toNat k (by omega), and127_lo k hk, and128_lo k hk, if_true]

theorem dec_cont (k : Nat) (hk : k < 128) (tl : Bytes) (m v u : Nat) :
    vbiDecAux (b8 (k + 128) :: tl) m v u = vbiDecAux tl (m * 128) (v + k * m) (u + 1) := by
  simp only [vbiDecAux, b8_toNat (k + 128) (by omega), and127_hi k hk, and128_hi k hk]
  rfl

/-- lowest base-128 digit at multiplier `m`, the rest at the next multiplier -/
theorem digit_step (n m : Nat) : n % 128 * m + n / 128 * (m * 128) = n * m := by
  rw [Nat.mul_comm m, ← Nat.mul_assoc, ← Nat.add_mul, Nat.mul_comm _ 128, Nat.mod_add_div]

/-- on every number, range check or not: each byte adds its seven bits at the current multiplier -/
theorem vbiDecAux_remLenEnc (n : Nat) : ∀ (tl : Bytes) (m v u : Nat),
    vbiDecAux (remLenEnc n ++ tl) m v u = .ok (v + n * m, u + (remLenEnc n).length) := by
  induction n using Nat.strongRecOn with
  | _ n ih =>
    intro tl m v u
    by_cases h : n < 128
    · rw [remLenEnc_lt n h]; exact dec_last n h tl m v u
    · rw [remLenEnc_ge n (by omega), List.cons_append, dec_cont _ (Nat.mod_lt _ (by decide)),
        ih _ (Nat.div_lt_self (by omega) (by decide))]
      rw [Nat.add_assoc v, digit_step, List.length_cons, Nat.add_assoc u, Nat.add_comm 1]

theorem vbiDec_vbi (n : Nat) (h : n ≤ 268435455) (tl : Bytes) :
    vbiDec (Spec.vbi n ++ tl) = .ok (n, (Spec.vbi n).length) := by
  rw [← remLenEnc_eq_vbi n h, vbiDec, vbiDecAux_remLenEnc, Nat.zero_add, Nat.zero_add, Nat.mul_one]

end Paho.PropsLemmas
