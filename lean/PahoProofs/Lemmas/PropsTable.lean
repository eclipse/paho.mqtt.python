/-
For C17: association-list lookups, the literal tables, `putAttr`/`getAttr`, what a successful `setAttr`/`setAttrList` did.
-/
import PahoProofs.Lemmas.PropsVbi

namespace Paho.PropsLemmas
open Paho Paho.Spec

theorem mem_of_lookup {α β : Type} [BEq α] [LawfulBEq α] (l : List (α × β)) (a : α) (b : β)
    (h : l.lookup a = some b) : (a, b) ∈ l := by
  obtain ⟨l₁, l₂, rfl, _⟩ := List.lookup_eq_some_iff.mp h
  exact List.mem_append_right _ List.mem_cons_self

theorem lookup_of_mem {α β : Type} [BEq α] [LawfulBEq α] {l : List (α × β)} (hnd : (l.map (·.1)).Nodup)
    {a : α} {b : β} (h : (a, b) ∈ l) : l.lookup a = some b := by
  induction l with
  | nil => cases h
  | cons x xs ih =>
    obtain ⟨k, w⟩ := x
    rw [List.map_cons, List.nodup_cons] at hnd
    rw [List.lookup_cons]
    rcases List.mem_cons.mp h with e | h'
    · cases e; rw [beq_self_eq_true]
    · have hne : a ≠ k := fun e => hnd.1 (e ▸ List.mem_map_of_mem (f := (·.1)) h')
      rw [beq_false_of_ne hne]
      exact ih hnd.2 h'

theorem lookup_map {α β γ : Type} [BEq α] (f : β → γ) (l : List (α × β)) (k : α) :
    (l.map fun r => (r.1, f r.2)).lookup k = (l.lookup k).map f := by
  induction l with
  | nil => rfl
  | cons x xs ih =>
    rw [List.map_cons, List.lookup_cons, List.lookup_cons, ih]
    cases k == x.1 <;> rfl

/-! ### table facts: a few evaluated, the rest read off them -/

/-- the type index leads to the code's name of the specification's wire type -/
theorem rows_eq_spec : Gen.propRows.map (fun r => (r.1, Gen.propTypes[r.2.1]?, r.2.2)) =
    Spec.propTable.map (fun r => (r.1, some r.2.1.codeName, r.2.2)) := by decide +kernel

theorem rows_ids_nodup : (Gen.propRows.map (·.1)).Nodup := by decide +kernel

/-- property identifiers are one-byte variable byte integers -/
theorem spec_ids_small : ∀ r ∈ Spec.propTable, r.1 < 128 := by decide +kernel

theorem rows_in_spec (i t : Nat) (pk : List Nat) (h : Gen.propRows.lookup i = some (t, pk)) :
    ∃ ty, (i, ty, pk) ∈ Spec.propTable ∧ Gen.propTypes[t]? = some ty.codeName := by
  have hm := List.mem_map_of_mem (f := fun r => (r.1, Gen.propTypes[r.2.1]?, r.2.2)) (mem_of_lookup _ _ _ h)
  rw [rows_eq_spec] at hm
  obtain ⟨⟨_, ty, _⟩, hr, e⟩ := List.mem_map.mp hm
  simp only [Prod.mk.injEq] at e
  obtain ⟨rfl, e, rfl⟩ := e
  exact ⟨ty, hr, e.symm⟩

theorem spec_in_rows (i : Nat) (ty : PType) (pk : List Nat) (h : (i, ty, pk) ∈ Spec.propTable) :
    ∃ t, Props.row i = some (t, pk) ∧ Gen.propTypes[t]? = some ty.codeName ∧ i < 128 := by
  have hm := List.mem_map_of_mem (f := fun r => (r.1, some r.2.1.codeName, r.2.2)) h
  rw [← rows_eq_spec] at hm
  obtain ⟨⟨_, t, _⟩, hr, e⟩ := List.mem_map.mp hm
  simp only [Prod.mk.injEq] at e
  obtain ⟨rfl, e, rfl⟩ := e
  exact ⟨t, lookup_of_mem rows_ids_nodup hr, e, spec_ids_small _ h⟩

/-- names are unique and ids are unique in the name table -/
theorem names_lookup (name : String) (i : Nat) (h : (name, i) ∈ Gen.propNames) :
    Gen.propNames.lookup name = some i ∧ Props.nameOfId i = some name := by
  have all : (Gen.propNames.all fun nm =>
      Gen.propNames.lookup nm.1 == some nm.2 && Props.nameOfId nm.2 == some nm.1) = true := by decide +kernel
  simpa using List.all_eq_true.mp all _ h

theorem names_ids_nodup : (Gen.propNames.map (·.2)).Nodup :=
  (show Gen.propNames.map (·.2) = Gen.propRows.map (·.1) by decide +kernel) ▸ rows_ids_nodup

theorem codeName_inj (a b : PType) (h : a.codeName = b.codeName) : a = b := by
  cases a <;> cases b <;> first | rfl | simp [PType.codeName] at h

/-- dropping the entries of key `i`, however the test for it is written -/
theorem lookup_filter_ne {β : Type} (xs : List (Nat × β)) (i j : Nat) (f : Nat × β → Bool)
    (hf : ∀ x, f x = true ↔ x.1 ≠ i) :
    (xs.filter f).lookup j = if j = i then none else xs.lookup j := by
  induction xs with
  | nil => simp
  | cons x xs ih =>
    obtain ⟨k, w⟩ := x
    rw [List.filter_cons, List.lookup_cons]
    by_cases hk : k = i
    · rw [if_neg fun h => (hf (k, w)).mp h hk, ih]
      by_cases hj : j = i
      · rw [if_pos hj, if_pos hj]
      · rw [if_neg hj, if_neg hj, beq_false_of_ne (hk ▸ hj)]
    · rw [if_pos ((hf (k, w)).mpr hk), List.lookup_cons, ih]
      cases hjk : j == k
      · rfl
      · exact (if_neg fun e => hk ((beq_iff_eq.mp hjk).symm.trans e)).symm

theorem getAttr_putAttr (p : Props) (i j : Nat) (vs : List PVal) :
    (p.putAttr i vs).getAttr j = if j = i then some vs else p.getAttr j := by
  rw [Props.putAttr, Props.getAttr, List.lookup_append, lookup_filter_ne _ i j _ (fun _ => decide_eq_true_iff),
    List.lookup_cons, List.lookup_nil]
  by_cases h : j = i
  · rw [if_pos h, if_pos h, beq_iff_eq.mpr h]; rfl
  · rw [if_neg h, if_neg h, beq_false_of_ne h]; exact Option.or_none

@[simp] theorem ptype_putAttr (p : Props) (i : Nat) (vs : List PVal) : (p.putAttr i vs).ptype = p.ptype := rfl

/-- the value stored by a successful scalar assignment -/
def newVals (p : Props) (i : Nat) (v : PVal) : List PVal :=
  if Props.allowsMultiple i then (p.getAttr i).getD [] ++ [v] else [v]

theorem setAttr_ok {p p' : Props} {name : String} {v : PVal} (h : p.setAttr name v = .ok p') :
    ∃ i t pk, Gen.propNames.lookup name = some i ∧ Gen.propRows.lookup i = some (t, pk) ∧
      pk.contains p.ptype = true ∧ Props.valueForbidden name v = false ∧
      p' = p.putAttr i (newVals p i v) := by
  unfold Props.setAttr at h
  split at h
  · cases h
  rename_i i hi
  split at h
  · cases h
  rename_i t pk hr
  cases hc : pk.contains p.ptype with
  | false =>
    simp only [hc, Bool.not_false, if_true, Props.notAllowedExc] at h
    split at h <;> cases h
  | true =>
    cases hf : Props.valueForbidden name v with
    | true => simp only [hc, hf, Bool.not_true, Bool.false_eq_true, if_false, if_true, reduceCtorEq] at h
    | false =>
      simp only [hc, hf, Bool.not_true, Bool.false_eq_true, if_false] at h
      rw [← apply_ite Except.ok, ← apply_ite (p.putAttr i)] at h
      exact ⟨i, t, pk, hi, hr, hc, rfl, (Except.ok.inj h).symm⟩

theorem setAttr_eq {p : Props} {name : String} {v : PVal} {i t : Nat} {pk : List Nat}
    (hi : Gen.propNames.lookup name = some i) (hr : Props.row i = some (t, pk))
    (hc : pk.contains p.ptype = true) (hf : Props.valueForbidden name v = false) :
    p.setAttr name v = .ok (p.putAttr i (newVals p i v)) := by
  rw [newVals, apply_ite (p.putAttr i), apply_ite Except.ok]
  simp only [Props.setAttr, Props.idOfName, hi, hr, hc, hf, Bool.not_true, Bool.false_eq_true, if_false]

theorem setAttrList_ok {p p' : Props} {name : String} {vs : List PVal} (h : p.setAttrList name vs = .ok p') :
    ∃ i t pk, Gen.propNames.lookup name = some i ∧ Gen.propRows.lookup i = some (t, pk) ∧
      pk.contains p.ptype = true ∧ vs.any (Props.valueForbidden name) = false ∧
      Props.allowsMultiple i = true ∧
      p' = p.putAttr i ((p.getAttr i).getD [] ++ vs) := by
  unfold Props.setAttrList at h
  split at h
  · cases h
  rename_i i hi
  split at h
  · cases h
  rename_i t pk hr
  cases hc : pk.contains p.ptype with
  | false =>
    simp only [hc, Bool.not_false, if_true, Props.notAllowedExc] at h
    split at h <;> cases h
  | true =>
    cases hf : vs.any (Props.valueForbidden name) with
    | true =>
      simp only [hc, hf, Bool.not_true, Bool.false_eq_true, if_false, Gen.propRulesOnLists, Bool.and_self, if_true,
        reduceCtorEq] at h
    | false =>
      simp only [hc, hf, Bool.not_true, Bool.false_eq_true, if_false, Bool.and_false] at h
      split at h
      · exact ⟨i, t, pk, hi, hr, hc, rfl, ‹_›, (Except.ok.inj h).symm⟩
      · cases h

end Paho.PropsLemmas
