/-
For C19: `bytes([a, s]) in bs` in terms of the levels of `bs.split(bytes([s]))`, and the code's per-level test
against the grammar.
-/
import Paho.Model.Validate
import Paho.Spec.Topic
import PahoProofs.Lemmas.Split

namespace Paho

/-- "some non-last level ends with `a`" -/
def endsNonlast (a : UInt8) : List Level → Bool
  | [] => false
  | [_] => false
  | l :: l' :: ls => l.getLast? = some a || endsNonlast a (l' :: ls)

theorem endsNonlast_cons (a : UInt8) (l : Level) (ls : List Level) :
    endsNonlast a (l :: ls) = (!ls.isEmpty && (l.getLast? = some a || endsNonlast a ls)) := by
  cases ls <;> rfl

theorem head_sep_iff (sep : UInt8) (cs : List UInt8) (l : Level) (ls : List Level)
    (h : splitOn sep cs = l :: ls) : cs.head? = some sep ↔ (l = [] ∧ ls ≠ []) := by
  cases cs with
  | nil => cases h; exact ⟨fun e => (by cases e), fun e => absurd rfl e.2⟩
  | cons d cs' =>
    rw [List.head?_cons, Option.some.injEq]
    rcases splitOn_cons sep d cs' with ⟨hd, h'⟩ | ⟨hd, l', ls', _, h'⟩ <;> cases h.symm.trans h'
    · exact ⟨fun _ => ⟨rfl, splitOn_ne_nil _ _⟩, fun _ => hd⟩
    · exact ⟨fun e => absurd e hd, fun e => absurd e.1 (List.cons_ne_nil _ _)⟩

theorem hasSub_pair_cons (a s c : UInt8) (cs : List UInt8) :
    hasSub [a, s] (c :: cs) = ((c = a && cs.head? = some s) || hasSub [a, s] cs) := by
  cases cs with
  | nil => simp [hasSub, isPrefix]
  | cons d cs' =>
    simp only [hasSub, isPrefix, List.head?_cons, Bool.and_true]
    congr 1
    simp [eq_comm]

/-- `bytes([a, s]) in bs` iff some non-last level of `bs.split(bytes([s]))` ends with `a` -/
theorem hasSub_pair_eq (a s : UInt8) (hne : a ≠ s) (bs : List UInt8) :
    hasSub [a, s] bs = endsNonlast a (splitOn s bs) := by
  induction bs with
  | nil => rfl
  | cons c cs ih =>
    rw [hasSub_pair_cons, ih]
    rcases splitOn_cons s c cs with ⟨rfl, h⟩ | ⟨hc, l, ls, hcs, h⟩
    · rw [h, endsNonlast_cons, decide_eq_false hne.symm, List.isEmpty_eq_false_iff.2 (splitOn_ne_nil _ _)]
      rfl
    · rw [h, hcs, endsNonlast_cons, endsNonlast_cons]
      have hh := head_sep_iff s cs l ls hcs
      cases l with
      | nil =>
        cases ls with
        | nil => simp at hh; simp [hh]
        | cons l' ls' => simp at hh; simp [hh]
      | cons d l' =>
        have : cs.head? ≠ some s := fun e => absurd (hh.1 e).1 (List.cons_ne_nil _ _)
        simp [this, List.getLast?_cons_cons]

/-- the code's per-level test -/
def lvlBad (p : Level) : Bool :=
  decide (p.length > 1) && (p.contains Spec.plus || p.contains Spec.hash)

theorem lvlBad_of_short {l : Level} (h : l.length ≤ 1) : lvlBad l = false := by
  rw [lvlBad, decide_eq_false (Nat.not_lt.2 h), Bool.false_and]

theorem levelOk_of_long {l : Level} (h : 1 < l.length) : Spec.levelOk l = !lvlBad l := by
  have hne : l ≠ [Spec.plus] := fun e => by rw [e] at h; exact absurd h (by decide)
  rw [lvlBad, Spec.levelOk, decide_eq_true h, decide_eq_false hne, Bool.true_and, Bool.false_or, Bool.not_or]

theorem levelOk_singleton (c : UInt8) : Spec.levelOk [c] = !decide (c = Spec.hash) := by
  by_cases h : c = Spec.hash
  · subst h; decide
  · by_cases h' : c = Spec.plus
    · subst h'; decide
    · simp only [Spec.levelOk, List.cons.injEq, h', and_true, decide_false, List.contains_eq_mem, List.mem_cons,
        Ne.symm h', List.not_mem_nil, or_self, Bool.not_false, Ne.symm h, Bool.and_self, Bool.or_true, h]

theorem lvlBad_nonlast (l : Level) :
    (lvlBad l || decide (l.getLast? = some Spec.hash)) = !Spec.levelOk l := by
  match l with
  | [] => rfl
  | [c] =>
    rw [lvlBad_of_short (l := [c]) (Nat.le_refl 1), levelOk_singleton, Bool.false_or, Bool.not_not]
    simp only [List.getLast?_singleton, Option.some.injEq]
  | c :: d :: l' =>
    have hlong : 1 < (c :: d :: l').length := Nat.succ_lt_succ (Nat.succ_pos _)
    rw [levelOk_of_long hlong, Bool.not_not]
    by_cases h : (c :: d :: l').getLast? = some Spec.hash
    · -- a level of two or more bytes that ends with `#` is bad anyway
      rw [lvlBad, decide_eq_true hlong,
        List.contains_iff_mem.2 (List.mem_of_getLast? h), Bool.or_true]
      rfl
    · rw [decide_eq_false h, Bool.or_false]

theorem lvlBad_last (l : Level) :
    lvlBad l = !(decide (l = [Spec.hash]) || Spec.levelOk l) := by
  match l with
  | [] => rfl
  | [c] =>
    rw [lvlBad_of_short (l := [c]) (Nat.le_refl 1), levelOk_singleton]
    simp only [List.cons.injEq, and_true, Bool.or_not_self, Bool.not_true]
  | c :: d :: l' =>
    have hlong : 1 < (c :: d :: l').length := Nat.succ_lt_succ (Nat.succ_pos _)
    have hne : c :: d :: l' ≠ [Spec.hash] := fun e => absurd (List.cons.inj e).2 (List.cons_ne_nil _ _)
    rw [levelOk_of_long hlong, decide_eq_false hne, Bool.false_or, Bool.not_not]

theorem validLevels_cons_cons (l l' : Level) (ls : List Level) :
    Spec.validLevels (l :: l' :: ls) = (Spec.levelOk l && Spec.validLevels (l' :: ls)) :=
  rfl

/-- the code's two tests on the levels (no bad level, no `#/`) against the grammar -/
theorem levels_check (L : List Level) (hL : L ≠ []) :
    (L.any lvlBad || endsNonlast Spec.hash L) = !Spec.validLevels L := by
  induction L with
  | nil => exact absurd rfl hL
  | cons l ls ih =>
    cases ls with
    | nil =>
      rw [List.any_cons, List.any_nil, Bool.or_false, endsNonlast, Bool.or_false, Spec.validLevels]
      exact lvlBad_last l
    | cons l' ls' =>
      rw [List.any_cons, endsNonlast, validLevels_cons_cons, Bool.not_and, ← ih (List.cons_ne_nil _ _), ← lvlBad_nonlast l]
      ac_rfl

/-- the rejection test of `filterCheck` with the extracted literals substituted -/
def filterBad (sub : List UInt8) : Bool :=
  decide (sub.length = 0) || decide (sub.length > 65535) || (splitOn Spec.slash sub).any lvlBad ||
    hasSub [Spec.hash, Spec.slash] sub

theorem filterCheck_eq (sub : List UInt8) : filterCheck sub = !filterBad sub :=
  rfl

end Paho
