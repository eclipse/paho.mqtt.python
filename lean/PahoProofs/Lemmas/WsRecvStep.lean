/-
One `_recv_impl` call against the frames still to come: the invariant `Inv`, the ghost bookkeeping
(`partialData`, `mu`) and the step relation `StepRel` every call satisfies (`recv_step`).
-/
import PahoProofs.Lemmas.WsRecvRead
namespace Paho.Ws
open Paho

/-! ### invariant and ghost state -/

/-- `fs`: the frames not yet consumed completely (the first one may be partly buffered / partly delivered).
Between calls `_payload_head` is below the length of the current payload, since a call that reaches the end resets
it to 0; the disjunct `= 0` is for an empty payload, where `<` cannot hold. -/
def Inv (fs : List Frame) (st : RecvSt) (q : List RecvItem) : Prop :=
  (∀ f ∈ fs, f.wf) ∧ (st.readbuffer ++ flat q <+: encs fs) ∧
  match fs with
  | [] => st.payloadHead = 0
  | f :: _ => st.readbuffer.length ≤ f.enc.length ∧ (st.payloadHead < f.payload.length ∨ st.payloadHead = 0)

/-- the part of the current frame's payload that has been handed to the application -/
def partialData : List Frame → Nat → Bytes
  | [], _ => []
  | f :: _, ph => if f.isData then f.payload.take ph else []

/-- what the frames to come contribute to `mu`: a unit per frame besides its payload, so that consuming a frame with an
empty payload lowers `mu` too (`Ok` records only that the queue measure did not grow) -/
def weight : List Frame → Nat
  | [] => 0
  | f :: fs => 1 + f.payload.length + weight fs

/-- termination measure of the receive loop -/
def mu (fs : List Frame) (st : RecvSt) (q : List RecvItem) : Nat := qMeasure q + (weight fs - st.payloadHead)

/-- the bytes a call returns to the application -/
def bytesOf : RecvRes → Bytes
  | .data b => b
  | _ => []

theorem partialData_zero (fs : List Frame) : partialData fs 0 = [] := by
  cases fs with
  | nil => rfl
  | cons f fs => simp [partialData]

theorem partialData_prefix (fs : List Frame) (ph : Nat) : partialData fs ph <+: dataOf fs := by
  cases fs with
  | nil => exact List.prefix_refl _
  | cons f rest =>
    simp only [partialData, dataOf]
    split
    · exact List.IsPrefix.trans (List.take_prefix _ _) (List.prefix_append _ _)
    · exact List.nil_prefix

theorem inv_init (frames : List Frame) (hwf : ∀ f ∈ frames, f.wf) (q : List RecvItem)
    (hq : flat q <+: encs frames) : Inv frames {} q := by
  refine ⟨hwf, by simpa using hq, ?_⟩
  cases frames with
  | nil => rfl
  | cons f rest => exact ⟨by simp, Or.inr rfl⟩

/-- what one call does, relative to the frames `fs` still to come: it consumes `cons` (nothing or the first frame) -/
structure StepRel (fs : List Frame) (st : RecvSt) (q : List RecvItem) (n : Nat)
    (o : RecvSt × List RecvItem × RecvRes × List Bytes) (cons fs' : List Frame) : Prop where
  split : fs = cons ++ fs'
  inv : Inv fs' o.1 o.2.1
  data : partialData fs st.payloadHead ++ bytesOf o.2.2.1 = dataOf cons ++ partialData fs' o.1.payloadHead
  sent : (∀ f ∈ cons, f.ctlUnmasked) → o.2.2.2 = owedAll cons
  bound : (bytesOf o.2.2.1).length ≤ n
  nonempty : ∀ b, o.2.2.1 = .data b → 1 ≤ n → b ≠ []
  mu_le : mu fs' o.1 o.2.1 ≤ mu fs st q
  complete : st.readbuffer ++ flat q = encs fs →
    o.1.readbuffer ++ flat o.2.1 = encs fs' ∧ (1 ≤ n → fs ≠ [] → mu fs' o.1 o.2.1 < mu fs st q)
  conn : (o.2.2.1 = .closed → o.1.connected = false) ∧ (o.2.2.1 ≠ .closed → o.1.connected = st.connected)

section measure
variable {f : Frame} {rest : List Frame} {st st' : RecvSt} {q q' : List RecvItem}

theorem mu_lt_of_advance (hq : qMeasure q' ≤ qMeasure q) (h1 : st.payloadHead < st'.payloadHead)
    (h2 : st'.payloadHead ≤ f.payload.length) : mu (f :: rest) st' q' < mu (f :: rest) st q :=
  Nat.add_lt_add_of_le_of_lt hq (Nat.sub_lt_sub_left (by rw [weight]; omega) h1)

theorem mu_lt_of_consumed (hq : qMeasure q' ≤ qMeasure q) (hph : st.payloadHead ≤ f.payload.length) :
    mu rest st' q' < mu (f :: rest) st q :=
  Nat.add_lt_add_of_le_of_lt hq
    (Nat.lt_of_le_of_lt (Nat.sub_le _ _) (Nat.lt_sub_of_add_lt (by rw [weight]; omega)))

end measure

theorem mu_pos {f : Frame} {rest : List Frame} {st : RecvSt} {q : List RecvItem} (h : Inv (f :: rest) st q) :
    0 < mu (f :: rest) st q := by
  have hlt : st.payloadHead < weight (f :: rest) := by have := h.2.2.2; rw [weight]; omega
  exact Nat.lt_of_lt_of_le (Nat.sub_pos_of_lt hlt) (Nat.le_add_left _ _)

theorem replies_eq_owed (f : Frame) (p : Bytes) (h : f.ctlUnmasked) (hp : f.mask = none → p = f.payload) :
    replies f.opcode p = f.owed := by
  unfold replies Frame.owed
  by_cases h9 : f.opcode = 9
  · have := hp (h (Or.inl h9))
    simp [h9, this]
  · by_cases h8 : f.opcode = 8
    · have := hp (h (Or.inr h8))
      simp [h8, this]
    · simp [h8, h9]

/-- the buffer grows only as far as the reads reached -/
theorem Ok.buf_le {c c' : Cur} (h : Ok c c') {L : Nat} (h0 : c.buf.length ≤ L) (h1 : c'.head ≤ L) : c'.buf.length ≤ L :=
  Nat.le_trans h.bufMax (Nat.max_le.2 ⟨h0, h1⟩)

/-! ### the call gives up (BlockingIOError / ConnectionError before the payload step is done) -/

section fail
variable {fs : List Frame} {st : RecvSt} {q : List RecvItem} (n : Nat) (hI : Inv fs st q) {c' : Cur} {T : Nat}
  (hT : ∀ f rest, fs = f :: rest → T ≤ f.enc.length)
include hI hT

theorem fail_case (hF : Fail { buf := st.readbuffer, head := 0, q := q } c' T) (res : RecvRes) (conn : Bool) (hres : bytesOf res = [] ∧ (∀ b, res ≠ .data b))
    (hconn : (res = .closed → conn = false) ∧ (res ≠ .closed → conn = st.connected)) :
    StepRel fs st q n ({ st with readbuffer := c'.buf, connected := conn }, c'.q, res, []) [] fs := by
  obtain ⟨hwf, hpre, hm⟩ := hI
  have hst : c'.buf ++ flat c'.q = st.readbuffer ++ flat q := hF.stream
  refine ⟨rfl, ⟨hwf, hst ▸ hpre, ?_⟩, by rw [hres.1, List.append_nil]; rfl, fun _ => rfl, hres.1 ▸ Nat.zero_le n,
    fun b hb => absurd hb (hres.2 b), Nat.add_le_add_right hF.meas _, fun hc => ⟨hst.trans hc, fun _ hne => ?_⟩, hconn⟩
  · cases fs with
    | nil => exact hm
    | cons f rest => exact ⟨Nat.le_of_lt (Nat.lt_of_lt_of_le hF.short (hT f rest rfl)), hm.2⟩
  · cases fs with
    | nil => exact absurd rfl hne
    | cons f rest =>
      -- the whole frame is to come, so the read that gave up took something off the queue
      refine Nat.add_lt_add_right (hF.progress (Nat.le_trans (hT f rest rfl) ?_)) _
      exact (congrArg List.length hc).symm ▸ List.length_append ▸ Nat.le_add_right _ _

variable {α : Type} {r : Step α} {post : α → Cur → Prop} (hs : Spec r { buf := st.readbuffer, head := 0, q := q } T post)
include hs

theorem fail_block (hr : r = .block c') (he : recvImpl st q n = ({ st with readbuffer := c'.buf }, c'.q, .wouldBlock, [])) :
    ∃ cons fs', StepRel fs st q n (recvImpl st q n) cons fs' := by
  subst hr
  exact ⟨[], fs, he ▸ fail_case n hI hT hs .wouldBlock st.connected ⟨rfl, nofun⟩ ⟨nofun, fun _ => rfl⟩⟩

theorem fail_closed (hr : r = .closed c')
    (he : recvImpl st q n = ({ st with readbuffer := c'.buf, connected := false }, c'.q, .closed, [])) :
    ∃ cons fs', StepRel fs st q n (recvImpl st q n) cons fs' := by
  subst hr
  exact ⟨[], fs, he ▸ fail_case n hI hT hs .closed false ⟨rfl, nofun⟩ ⟨fun _ => rfl, fun h => absurd rfl h⟩⟩

end fail

/-- `readindex`: the payload step reads up to `_payload_head + length`, capped at the payload length -/
def rIdx (st : RecvSt) (n plen : Nat) : Nat := if plen < st.payloadHead + n then plen else st.payloadHead + n

theorem rIdx_le (st : RecvSt) (n plen : Nat) : rIdx st n plen ≤ plen := by
  unfold rIdx; split
  · exact Nat.le_refl _
  · exact Nat.le_of_not_lt ‹_›

theorem rIdx_of_lt {st : RecvSt} {n plen : Nat} (h : st.payloadHead + n < plen) : rIdx st n plen = st.payloadHead + n :=
  if_neg (Nat.lt_asymm h)

theorem rIdx_of_le {st : RecvSt} {n plen : Nat} (h : plen ≤ st.payloadHead + n) : rIdx st n plen = plen := by
  unfold rIdx; split
  · rfl
  · exact Nat.le_antisymm (Nat.le_of_not_lt ‹_›) h

/-! ### unfolding `recvImpl` along the outcome of its two stages -/

section unfold
variable (st : RecvSt) (q : List RecvItem) (n : Nat)

theorem recvImpl_hdr_block {c : Cur} (h : readHeader { buf := st.readbuffer, head := 0, q := q } = .block c) :
    recvImpl st q n = ({ st with readbuffer := c.buf }, c.q, .wouldBlock, []) := by
  simp [recvImpl, h]

theorem recvImpl_hdr_closed {c : Cur} (h : readHeader { buf := st.readbuffer, head := 0, q := q } = .closed c) :
    recvImpl st q n = ({ st with readbuffer := c.buf, connected := false }, c.q, .closed, []) := by
  simp [recvImpl, h]

theorem recvImpl_pl_block {hd : Hdr} {c1 c : Cur}
    (h : readHeader { buf := st.readbuffer, head := 0, q := q } = .ok hd c1)
    (h2 : readPayload hd st.payloadHead (rIdx st n hd.plen) c1 = .block c) :
    recvImpl st q n = ({ st with readbuffer := c.buf }, c.q, .wouldBlock, []) := by
  simp only [rIdx] at h2
  simp [recvImpl, h, h2]

theorem recvImpl_pl_closed {hd : Hdr} {c1 c : Cur}
    (h : readHeader { buf := st.readbuffer, head := 0, q := q } = .ok hd c1)
    (h2 : readPayload hd st.payloadHead (rIdx st n hd.plen) c1 = .closed c) :
    recvImpl st q n = ({ st with readbuffer := c.buf, connected := false }, c.q, .closed, []) := by
  simp only [rIdx] at h2
  simp [recvImpl, h, h2]

theorem recvImpl_pl_ok {hd : Hdr} {c1 c : Cur} {payload result : Bytes} {ph : Nat}
    (h : readHeader { buf := st.readbuffer, head := 0, q := q } = .ok hd c1)
    (h2 : readPayload hd st.payloadHead (rIdx st n hd.plen) c1 = .ok (payload, result, ph) c) :
    recvImpl st q n =
      (if rIdx st n hd.plen = hd.plen then
        ({ st with readbuffer := [], payloadHead := 0 }, c.q,
          (if (hd.opcode = 2 ∨ hd.opcode = 0) ∧ hd.plen > 0 then RecvRes.data result else RecvRes.wouldBlock),
          replies hd.opcode payload)
      else
        ({ st with readbuffer := c.buf, payloadHead := ph }, c.q,
          (if (hd.opcode = 2 ∨ hd.opcode = 0) ∧ hd.plen > 0 then RecvRes.data result else RecvRes.wouldBlock), [])) := by
  unfold rIdx at h2 ⊢
  unfold recvImpl
  rw [h]
  dsimp only
  rw [h2]

end unfold

/-! ### a frame is at the front -/

/-- the result handed to the caller -/
def resOf (f : Frame) (result : Bytes) : RecvRes :=
  if (f.opcode = 2 ∨ f.opcode = 0) ∧ f.payload.length > 0 then RecvRes.data result else RecvRes.wouldBlock

theorem bytesOf_resOf (f : Frame) (result : Bytes) :
    bytesOf (resOf f result) = if f.isData ∧ f.payload.length > 0 then result else [] := by
  unfold resOf Frame.isData
  split <;> rfl

theorem resOf_ne_closed (f : Frame) (result : Bytes) : resOf f result ≠ .closed := by
  unfold resOf; split <;> intro h <;> cases h

/-! what the caller gets when the payload step read up to index `r`: the slice `[ph, r)` of the payload -/

theorem data_slice (f : Frame) {ph r : Nat} (h : ph ≤ r) :
    (if f.isData then f.payload.take ph else []) ++ bytesOf (resOf f ((f.payload.drop ph).take (r - ph))) =
      if f.isData then f.payload.take r else [] := by
  rw [bytesOf_resOf]
  by_cases hd : f.isData
  · simp only [hd, if_true, true_and]
    by_cases h0 : f.payload.length > 0
    · rw [if_pos h0, ← List.take_add, Nat.add_sub_cancel' h]
    · rw [if_neg h0, List.eq_nil_of_length_eq_zero (Nat.eq_zero_of_not_pos h0), List.take_nil, List.take_nil]; rfl
  · simp only [hd, if_false, false_and]; rfl

theorem bound_slice (f : Frame) {ph r n : Nat} (h : r ≤ ph + n) :
    (bytesOf (resOf f ((f.payload.drop ph).take (r - ph)))).length ≤ n := by
  rw [bytesOf_resOf]
  split
  · exact Nat.le_trans (List.length_take_le _ _) (Nat.sub_le_iff_le_add'.2 h)
  · exact Nat.zero_le _

/-- a non-empty slice `[ph, r)` of a non-empty payload is never handed over as b'' -/
theorem resOf_ne_nil {f : Frame} {ph r : Nat} {b : Bytes} (h1 : f.payload.length > 0 → ph < r) (h2 : r ≤ f.payload.length)
    (hb : resOf f ((f.payload.drop ph).take (r - ph)) = .data b) : b ≠ [] := by
  unfold resOf at hb
  split at hb
  · cases hb
    have h1 := h1 (And.right ‹_›)
    apply List.ne_nil_of_length_pos
    rw [List.length_take, List.length_drop]
    exact Nat.lt_min.2 ⟨Nat.sub_pos_of_lt h1, Nat.sub_pos_of_lt (Nat.lt_of_lt_of_le h1 h2)⟩
  · cases hb

section step
variable {f : Frame} {rest : List Frame} {st : RecvSt} {q : List RecvItem} (n : Nat) (hI : Inv (f :: rest) st q) {c2 : Cur}
  (ok2 : Ok { buf := st.readbuffer, head := 0, q := q } c2)
include hI ok2

/-- the payload step reached the end of the frame -/
theorem step_complete (hc2 : c2.head = f.hdrLen + f.payload.length) (hn : f.payload.length ≤ st.payloadHead + n)
    {pl : Bytes} (hpl : f.mask = none → pl = f.payload.take f.payload.length) :
    StepRel (f :: rest) st q n
      ({ st with readbuffer := [], payloadHead := 0 }, c2.q,
        resOf f ((f.payload.drop st.payloadHead).take (f.payload.length - st.payloadHead)), replies f.opcode pl) [f] rest := by
  obtain ⟨hwf, hpre, hbuf, hph⟩ := hI
  have hphle : st.payloadHead ≤ f.payload.length := hph.elim Nat.le_of_lt (fun h => h ▸ Nat.zero_le _)
  rw [← f.enc_length] at hc2
  -- the buffer holds exactly the frame
  have hlen : c2.buf.length = f.enc.length :=
    Nat.le_antisymm (ok2.buf_le hbuf (Nat.le_of_eq hc2)) (hc2 ▸ ok2.headLe)
  have hst : c2.buf ++ flat c2.q = st.readbuffer ++ flat q := ok2.stream
  obtain ⟨t, ht⟩ : c2.buf ++ flat c2.q <+: f.enc ++ encs rest := hst ▸ hpre
  rw [List.append_assoc] at ht
  have hsplit := List.append_inj ht hlen
  refine ⟨rfl, ⟨fun g hg => hwf g (List.mem_cons_of_mem _ hg), ⟨t, hsplit.2⟩, ?_⟩, ?_, ?_, bound_slice f hn,
    fun b hb _ => resOf_ne_nil (fun hpos => hph.elim id (fun h => h ▸ hpos)) (Nat.le_refl _) hb,
    Nat.le_of_lt (mu_lt_of_consumed ok2.meas hphle), ?_, ⟨fun h => absurd h (resOf_ne_closed _ _), fun _ => rfl⟩⟩
  · cases rest with
    | nil => rfl
    | cons g gs => exact ⟨Nat.zero_le _, Or.inr rfl⟩
  · show partialData (f :: rest) st.payloadHead ++ bytesOf (resOf f _) = dataOf [f] ++ partialData rest 0
    rw [partialData_zero rest, partialData, data_slice f hphle, List.take_length]
    simp only [dataOf, List.append_nil]
  · intro hc
    exact (replies_eq_owed f pl (hc f List.mem_cons_self) (fun h => (hpl h).trans (List.take_length ..))).trans
      (List.append_nil _).symm
  · intro hc
    have hfull : c2.buf ++ flat c2.q = f.enc ++ encs rest := hst.trans hc
    rw [hsplit.1] at hfull
    exact ⟨List.append_cancel_left hfull, fun _ _ => mu_lt_of_consumed ok2.meas hphle⟩

/-- the payload step stopped inside the frame (`readindex = _payload_head + length < payload_length`) -/
theorem step_partial (hc2 : c2.head = f.hdrLen + (st.payloadHead + n)) (hn : st.payloadHead + n < f.payload.length)
    {ph' : Nat} (hph' : ph' = if st.payloadHead + n > 0 then st.payloadHead + n else st.payloadHead) :
    StepRel (f :: rest) st q n
      ({ st with readbuffer := c2.buf, payloadHead := ph' }, c2.q,
        resOf f ((f.payload.drop st.payloadHead).take (st.payloadHead + n - st.payloadHead)), []) [] (f :: rest) := by
  obtain ⟨hwf, hpre, hbuf, hph⟩ := hI
  have hp : ph' = st.payloadHead + n := by
    rw [hph']; split
    · rfl
    · omega
  subst hp
  have hst : c2.buf ++ flat c2.q = st.readbuffer ++ flat q := ok2.stream
  have hle := Nat.le_add_right st.payloadHead n
  refine ⟨rfl, ⟨hwf, hst ▸ hpre, ?_, Or.inl hn⟩, ?_, fun _ => rfl, bound_slice f (Nat.le_refl _),
    fun b hb h1 => resOf_ne_nil (fun _ => Nat.lt_add_of_pos_right h1) (Nat.le_of_lt hn) hb,
    Nat.add_le_add ok2.meas (Nat.sub_le_sub_left hle _), fun hc => ⟨hst.trans hc, fun h1 _ => ?_⟩,
    ⟨fun h => absurd h (resOf_ne_closed _ _), fun _ => rfl⟩⟩
  · refine ok2.buf_le hbuf ?_
    rw [hc2, f.enc_length]
    exact Nat.add_le_add_left (Nat.le_of_lt hn) _
  · show partialData (f :: rest) st.payloadHead ++ bytesOf (resOf f _) = dataOf [] ++ partialData (f :: rest) _
    rw [partialData, data_slice f hle]; rfl
  · exact mu_lt_of_advance ok2.meas (Nat.lt_add_of_pos_right h1) (Nat.le_of_lt hn)

end step

/-- **every `_recv_impl` call** keeps the invariant and accounts for what it delivers and sends -/
theorem recv_step (fs : List Frame) (st : RecvSt) (q : List RecvItem) (n : Nat) (hI : Inv fs st q) :
    ∃ cons fs', StepRel fs st q n (recvImpl st q n) cons fs' := by
  cases fs with
  | nil =>
    -- no frame is expected and nothing will arrive: the first `_buffered_read(1)` cannot succeed
    have h0 : ({ buf := st.readbuffer, head := 0, q := q } : Cur).stream = [] := List.prefix_nil.1 hI.2.1
    have hs : Spec (readHeader { buf := st.readbuffer, head := 0, q := q }) _ 1 (fun _ _ => False) :=
      Spec.bind (bufferedRead_spec 1 _ (Nat.zero_le _)) fun _ c' hok hv =>
        absurd hok.stream_len (by rw [h0, hv.1]; exact Nat.not_succ_le_zero _)
    cases hr : readHeader { buf := st.readbuffer, head := 0, q := q } with
    | block c' => exact fail_block n hI nofun hs hr (recvImpl_hdr_block st q n hr)
    | closed c' => exact fail_closed n hI nofun hs hr (recvImpl_hdr_closed st q n hr)
    | ok hd c1 => rw [hr] at hs; exact hs.2.elim
  | cons f rest =>
    have hp0 : ({ buf := st.readbuffer, head := 0, q := q } : Cur).stream <+: f.enc ++ encs rest := hI.2.1
    have hs := readHeader_spec (encs rest) (hI.1 f List.mem_cons_self) { buf := st.readbuffer, head := 0, q := q } rfl hp0
    -- a call that gives up at `T` has not got past the end of the frame
    have hT : ∀ {T}, T ≤ f.hdrLen + f.payload.length → ∀ g r, f :: rest = g :: r → T ≤ g.enc.length := by
      intro T h g r hg; cases hg; exact f.enc_length ▸ h
    cases hr : readHeader { buf := st.readbuffer, head := 0, q := q } with
    | block c' => exact fail_block n hI (hT (Nat.le_add_right _ _)) hs hr (recvImpl_hdr_block st q n hr)
    | closed c' => exact fail_closed n hI (hT (Nat.le_add_right _ _)) hs hr (recvImpl_hdr_closed st q n hr)
    | ok hd c1 =>
      rw [hr] at hs
      obtain ⟨ok1, rfl, hc1⟩ := hs
      have hrle := rIdx_le st n f.payload.length
      have hs2 := Spec.rebase ok1
        (readPayload_spec (encs rest) c1 ok1.headLe hc1 (ok1.stream ▸ hp0) st.payloadHead (rIdx st n f.payload.length) hrle)
      cases hr2 : readPayload { opcode := f.opcode, plen := f.payload.length, key := f.mask } st.payloadHead
          (rIdx st n f.payload.length) c1 with
      | block c' =>
        exact fail_block n hI (hT (Nat.add_le_add_left hrle _)) hs2 hr2 (recvImpl_pl_block st q n hr hr2)
      | closed c' =>
        exact fail_closed n hI (hT (Nat.add_le_add_left hrle _)) hs2 hr2 (recvImpl_pl_closed st q n hr hr2)
      | ok x c2 =>
        obtain ⟨pl, result, ph'⟩ := x
        rw [hr2] at hs2
        obtain ⟨ok2, rfl, hph', hpl, hc2⟩ := hs2
        rw [recvImpl_pl_ok st q n hr hr2]
        rcases Nat.lt_or_ge (st.payloadHead + n) f.payload.length with hn | hn
        · rw [rIdx_of_lt hn] at hph' hc2 ⊢
          rw [if_neg (Nat.ne_of_lt hn)]
          exact ⟨[], f :: rest, step_partial n hI ok2 hc2 hn hph'⟩
        · rw [rIdx_of_le hn] at hpl hc2 ⊢
          rw [if_pos rfl]
          exact ⟨[f], rest, step_complete n hI ok2 hc2 hn hpl⟩

end Paho.Ws
