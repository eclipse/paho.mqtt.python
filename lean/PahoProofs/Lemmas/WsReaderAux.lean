/-
What the packet reader on top of `_recv_impl` needs and `StepRel` does not give: every call keeps the terminal event of
the raw queue and the absence of empty chunks, and reports "closed" only after every frame has been consumed
(`recvImpl_aux`); what a call does when no frame is pending (`recv_empty`).
-/
import PahoProofs.Lemmas.WsRecvStep
import PahoProofs.Lemmas.WsReaderGen
namespace Paho.Ws
open Paho Paho.ReaderLemmas Paho.ReaderGen

theorem flat_eq_dataOf (q : List RecvItem) : flat q = Paho.dataOf q := by
  induction q with
  | nil => rfl
  | cons i rest ih => cases i <;> simp [flat, Paho.dataOf, ih]

/-- the read chain of one call keeps `QInv`; a read that finds the connection closed leaves nothing to deliver -/
def AuxSpec {α : Type} (tm : Bool) (r : Step α) (c : Cur) : Prop :=
  QInv tm c.q →
    match r with
    | .ok _ c' | .block c' => QInv tm c'.q
    | .closed c' => QInv tm c'.q ∧ flat c'.q = [] ∧ tm = true

section aux
variable (tm : Bool)

theorem AuxSpec.bind {tm : Bool} {α β : Type} {r : Step α} {f : α → Cur → Step β} {c : Cur}
    (h : AuxSpec tm r c) (hf : ∀ a c', AuxSpec tm (f a c') c') : AuxSpec tm (r.bind f) c := by
  intro hq
  cases r with
  | ok a c' => exact hf a c' (h hq)
  | block c' | closed c' => exact h hq

theorem bufferedRead_aux (n : Nat) (c : Cur) : AuxSpec tm (bufferedRead n c) c := by
  intro hq
  unfold bufferedRead
  by_cases hw : n - (c.buf.length - c.head) > 0
  · simp only [hw, if_true]
    generalize n - (c.buf.length - c.head) = w at hw
    have hs := recvSpec.step w hw ⟨hq, rfl, rfl⟩
    rcases hrec : recvN w c.q with ⟨res, q'⟩
    rw [hrec] at hs
    cases res with
    | block =>
      obtain ⟨_, ⟨a, _⟩, _⟩ := hs
      exact a
    | closed | error =>
      obtain ⟨hd, ht, _, _, a, hd', _⟩ := hs
      exact ⟨a, (flat_eq_dataOf q').trans (hd'.symm.trans hd), ht⟩
    | bytes d =>
      obtain ⟨hne, _, _, _, _, ⟨hq', _⟩, _⟩ := hs
      simp only [if_neg (mt List.isEmpty_iff.mp hne)]
      by_cases hl : d.length < w
      · rw [if_pos hl]; exact hq'
      · rw [if_neg hl]; exact hq'
  · simp only [hw, if_false]
    exact hq

theorem readLen_aux (l : Nat) (c : Cur) : AuxSpec tm (readLen l c) c := by
  unfold readLen
  split
  · exact (bufferedRead_aux tm 2 c).bind fun _ _ => id
  · split
    · exact (bufferedRead_aux tm 8 c).bind fun _ _ => id
    · exact id

theorem readKey_aux (m : Bool) (c : Cur) : AuxSpec tm (readKey m c) c := by
  unfold readKey
  split
  · exact (bufferedRead_aux tm 4 c).bind fun _ _ => id
  · exact id

theorem readHeader_aux (c : Cur) : AuxSpec tm (readHeader c) c :=
  (bufferedRead_aux tm 1 c).bind fun _ c1 => (bufferedRead_aux tm 1 c1).bind fun _ c2 =>
    (readLen_aux tm _ c2).bind fun _ c3 => (readKey_aux tm _ c3).bind fun _ _ => id

theorem readPayload_aux (h : Hdr) (s r : Nat) (c : Cur) : AuxSpec tm (readPayload h s r c) c := by
  unfold readPayload
  split
  · exact (bufferedRead_aux tm r c).bind fun _ _ => id
  · exact id

/-- the reads of one `_recv_impl` call, as one step -/
def chain (st : RecvSt) (q : List RecvItem) (n : Nat) : Step (Bytes × Bytes × Nat) :=
  (readHeader { buf := st.readbuffer, head := 0, q := q }).bind fun h c =>
    readPayload h st.payloadHead (rIdx st n h.plen) c

end aux

/-- the raw queue a call leaves is the one its last read left, and only a read that found the connection closed
makes it report "closed" -/
theorem recvImpl_chain (st : RecvSt) (q : List RecvItem) (n : Nat) :
    match chain st q n with
    | .ok _ c | .block c => (recvImpl st q n).2.1 = c.q ∧ (recvImpl st q n).2.2.1 ≠ .closed
    | .closed c => (recvImpl st q n).2.1 = c.q := by
  unfold chain
  cases hr : readHeader { buf := st.readbuffer, head := 0, q := q } with
  | block c => rw [recvImpl_hdr_block st q n hr]; exact ⟨rfl, nofun⟩
  | closed c => rw [recvImpl_hdr_closed st q n hr]; rfl
  | ok h c =>
    show match readPayload h st.payloadHead (rIdx st n h.plen) c with
      | .ok _ c | .block c => _ | .closed c => _
    cases hr2 : readPayload h st.payloadHead (rIdx st n h.plen) c with
    | block c2 => rw [recvImpl_pl_block st q n hr hr2]; exact ⟨rfl, nofun⟩
    | closed c2 => rw [recvImpl_pl_closed st q n hr hr2]
    | ok x c2 =>
      obtain ⟨p, res, ph⟩ := x
      have hne : ∀ b : Bytes,
          (if (h.opcode = 2 ∨ h.opcode = 0) ∧ h.plen > 0 then RecvRes.data b else RecvRes.wouldBlock) ≠ .closed := by
        intro b; split <;> exact nofun
      rw [recvImpl_pl_ok st q n hr hr2]
      by_cases hcmp : rIdx st n h.plen = h.plen
      · rw [if_pos hcmp]; exact ⟨rfl, hne _⟩
      · rw [if_neg hcmp]; exact ⟨rfl, hne _⟩

/-- every `_recv_impl` call keeps `QInv`; it reports "closed" only with EOF / error at the head of the raw queue, hence,
when the whole stream of the frames `fs` arrives, only after every frame has been consumed -/
theorem recvImpl_aux {tm : Bool} (fs : List Frame) (st : RecvSt) {q : List RecvItem} (n : Nat) (hI : Inv fs st q)
    (hc : st.readbuffer ++ flat q = encs fs) (hq : QInv tm q) :
    QInv tm (recvImpl st q n).2.1 ∧ ((recvImpl st q n).2.2.1 = .closed → tm = true ∧ fs = []) := by
  have hA : AuxSpec tm (chain st q n) _ := (readHeader_aux tm _).bind fun h c => readPayload_aux tm h _ _ c
  replace hA := hA hq
  have hR := recvImpl_chain st q n
  cases hch : chain st q n with
  | ok _ c | block c => rw [hch] at hA hR; rw [hR.1]; exact ⟨hA, fun h => absurd h hR.2⟩
  | closed c' =>
    rw [hch] at hA hR
    rw [hR]
    refine ⟨hA.1, fun _ => ⟨hA.2.2, ?_⟩⟩
    cases fs with
    | nil => rfl
    | cons f rest =>
      -- a failed read with nothing more to come contradicts the presence of the whole frame
      exfalso
      have hp0 : ({ buf := st.readbuffer, head := 0, q := q } : Cur).stream <+: f.enc ++ encs rest :=
        ⟨[], (List.append_nil _).trans hc⟩
      have hrle := rIdx_le st n f.payload.length
      have hs : Spec (chain st q n) { buf := st.readbuffer, head := 0, q := q }
          (f.hdrLen + rIdx st n f.payload.length) (fun _ _ => True) := by
        refine Spec.bind ((readHeader_spec (encs rest) (hI.1 f (by simp)) _ rfl hp0).mono (Nat.le_add_right _ _)
          (fun _ _ _ h => h)) ?_
        intro hd c1 ok1 ⟨hhd, hc1⟩
        subst hhd
        exact (readPayload_spec (encs rest) c1 ok1.headLe hc1 (by rw [ok1.stream]; exact hp0) st.payloadHead _ hrle).mono
          (Nat.le_refl _) (fun _ _ _ _ => trivial)
      rw [hch] at hs
      have h1 : c'.buf ++ flat c'.q = f.enc ++ encs rest := hs.stream.trans hc
      rw [hA.2.1, List.append_nil] at h1
      have h2 := hs.short
      rw [h1, List.length_append, f.enc_length] at h2
      omega

/-- no frame pending and nothing buffered: a call that blocks either finds the raw queue empty (and leaves it so) or
takes a would-block marker off it -/
theorem recv_empty (st : RecvSt) (q : List RecvItem) (n : Nat) (hb : st.readbuffer = []) (hf : flat q = [])
    (hq : noEmptyChunks q = true) (hres : (recvImpl st q n).2.2.1 = .wouldBlock) :
    (recvImpl st q n).2.1 = [] ∨ mu [] (recvImpl st q n).1 (recvImpl st q n).2.1 < mu [] st q := by
  cases q with
  | nil => exact Or.inl (by simp [recvImpl, readHeader, bufferedRead, Step.bind, recvN, hb])
  | cons it rest =>
    cases it with
    | data b => exact absurd (List.append_eq_nil_iff.mp hf).1 ((noEmptyChunks_data b rest).mp hq).1
    | _ => simp [recvImpl, readHeader, bufferedRead, Step.bind, recvN, hb, mu, weight, qMeasure, flat] at hres ⊢

end Paho.Ws
