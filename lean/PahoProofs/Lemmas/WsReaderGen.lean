/-
The packet reader over an abstract transport (`packetReadOn`, `drainOn` of Paho.Model.ReaderWs); nothing here is
particular to WebSockets. Under what `TSpec` asks of a transport, one call (`packetReadOn_sound`) and the pump
(`drainOn_ref`) move along the reference automaton `ReaderLemmas.feed`. At the end: the plain socket `recvN` satisfies
`TSpec` (`recvSpec`), and the reader over `recvN` is the one of Paho.Model.Reader. The WebSocket wrapper: WsReaderSpec.lean.
-/
import Paho.Model.ReaderWs
import PahoProofs.Lemmas.ReaderFeed
namespace Paho.ReaderGen
open Paho Paho.ReaderLemmas

/-- with no command byte yet, a call reads one and goes on as a call that finds it in `_in_packet` -/
theorem packetReadOn_cmd {τ : Type} (recv : Nat → τ → RecvRes × τ) (r : RState) (t : τ) (hc : r.command = 0) :
    packetReadOn recv r t =
      match recv 1 t with
      | (.bytes (c :: _), t') =>
        if c.toNat = 0 then (r, t', .protocol) else packetReadOn recv { r with command := c.toNat } t'
      | (.block, t') => (r, t', .again)
      | (_, t') => (r, t', .connLost) := by
  rw [packetReadOn, if_pos hc]
  obtain ⟨res, t'⟩ := recv 1 t
  cases res with
  | bytes d =>
    cases d with
    | nil => rfl
    | cons c cs =>
      by_cases hz : c.toNat = 0
      · simp only [hz, if_true]
      · simp only [hz, if_false]
        rw [packetReadOn, if_neg hz]
  | _ => rfl

/-- how the stream ends, from the verdict of the reference automaton and the transport's terminal event -/
def endOfP (t : Bool) : StreamEnd → PumpEnd
  | .ok => if t then .connLost else .idle
  | .protocol => .protocol

def StepOK {τ : Type} (Rel : τ → Bytes → Bool → Nat → Prop) (Done : τ → Prop) (idle : τ → Bool)
    (n : Nat) (bs : Bytes) (tm : Bool) (sz : Nat) : RecvRes × τ → Prop
  | (.block, t') => ∃ sz', Rel t' bs tm sz' ∧ (idle t' = true ∨ sz' < sz)
  | (.closed, t') | (.error, t') => bs = [] ∧ tm = true ∧ Done t' ∧ ∃ sz', Rel t' bs tm sz'
  | (.bytes d, t') => d ≠ [] ∧ d.length ≤ n ∧ ∃ bs' sz', bs = d ++ bs' ∧ Rel t' bs' tm sz' ∧ sz' < sz

/-- `Rel t bs tm sz`: from state `t` the transport will deliver exactly the bytes `bs`, then end the connection
(`tm = true`) or stay silent; `sz` bounds the work left. `Done`: the transport has nothing left at all. -/
structure TSpec {τ : Type} (recv : Nat → τ → RecvRes × τ) (idle : τ → Bool) where
  Rel : τ → Bytes → Bool → Nat → Prop
  Done : τ → Prop
  idle_nil : ∀ {t bs tm sz}, Rel t bs tm sz → idle t = true → bs = [] ∧ tm = false ∧ Done t
  step : ∀ (n : Nat) {t : τ} {bs : Bytes} {tm : Bool} {sz : Nat}, 0 < n → Rel t bs tm sz →
    StepOK Rel Done idle n bs tm sz (recv n t)

theorem single_of_le_one {d : Bytes} (h0 : d ≠ []) (h1 : d.length ≤ 1) : ∃ b, d = [b] := by
  match d, h0, h1 with
  | [b], _, _ => exact ⟨b, rfl⟩
  | _ :: _ :: _, _, h => simp at h

section sound
variable {τ : Type} {recv : Nat → τ → RecvRes × τ} {idle : τ → Bool} (S : TSpec recv idle)
  (tm : Bool) (acc : List (Nat × Bytes))

/-- what one call (or the rest of one call) that ends with `out` in `(r', t')` means for the automaton. The clauses
on `sz` are what the pump's measure needs (`fuel_step`): a call that does not end the pump lowers `sz`, except one
that only hands over a packet the reader already held (`full r`) -/
def Sound (r : RState) (bs : Bytes) (sz : Nat) : RState × τ × ReadOut → Prop
  | (r', t', .again) => ∃ bs' sz', S.Rel t' bs' tm sz' ∧ Ref r bs acc = Ref r' bs' acc ∧ ¬ full r' ∧
      (idle t' = true ∨ sz' < sz)
  | (r', t', .againBusy) => ∃ bs' sz', S.Rel t' bs' tm sz' ∧ r'.command ≠ 0 ∧ Ref r bs acc = Ref r' bs' acc ∧ sz' < sz
  | (_, t', .connLost) => Ref r bs acc = (acc, .ok) ∧ tm = true ∧ S.Done t'
  | (_, _, .protocol) => Ref r bs acc = (acc, .protocol)
  | (_, t', .complete c b) => ∃ bs' sz', S.Rel t' bs' tm sz' ∧ Ref r bs acc = Ref {} bs' (acc ++ [(c, b)]) ∧
      sz' ≤ sz ∧ (sz' < sz ∨ full r)

variable {S tm acc} {r r1 : RState} {bs bs1 : Bytes} {sz sz1 : Nat} {t' : τ}

/-- a call that first takes the automaton from `(r, bs)` to `(r1, bs1)` -/
theorem Sound.of_step {res} (href : Ref r bs acc = Ref r1 bs1 acc) (hsz : sz1 < sz)
    (h : Sound S tm acc r1 bs1 sz1 res) : Sound S tm acc r bs sz res := by
  obtain ⟨r', t', out⟩ := res
  cases out with
  | again =>
    obtain ⟨bs', sz', a, c, d, e⟩ := h
    exact ⟨bs', sz', a, href.trans c, d, e.imp id (Nat.lt_trans · hsz)⟩
  | againBusy =>
    obtain ⟨bs', sz', a, b, c, d⟩ := h
    exact ⟨bs', sz', a, b, href.trans c, Nat.lt_trans d hsz⟩
  | connLost => exact ⟨href.trans h.1, h.2⟩
  | protocol => exact href.trans h
  | complete c b =>
    obtain ⟨bs', sz', a, b, c, _⟩ := h
    have hlt := Nat.lt_of_le_of_lt c hsz
    exact ⟨bs', sz', a, href.trans b, Nat.le_of_lt hlt, Or.inl hlt⟩

theorem Sound.block {n} (hnf : ¬ full r) (h : StepOK S.Rel S.Done idle n bs tm sz (.block, t')) :
    Sound S tm acc r bs sz (r, t', .again) :=
  let ⟨sz', a, b⟩ := h
  ⟨bs, sz', a, rfl, hnf, b⟩

/-- `h`: what `StepOK` says of `.closed` and of `.error` -/
theorem Sound.closed (hnf : ¬ full r) (h : bs = [] ∧ tm = true ∧ S.Done t' ∧ ∃ sz', S.Rel t' bs tm sz') :
    Sound S tm acc r bs sz (r, t', .connLost) := by
  obtain ⟨rfl, b, c, _⟩ := h
  exact ⟨Ref_not_full hnf, b, c⟩

variable (S tm acc)

theorem readBodyOn_sound (count : Nat) (r : RState) (t : τ) (bs : Bytes) (sz : Nat) (h : 0 < count)
    (hc : r.command ≠ 0) (hh : r.haveRemaining = true) (hrel : S.Rel t bs tm sz) :
    Sound S tm acc r bs sz (readBodyOn recv count r t) := by
  induction count generalizing r t bs sz with
  | zero => exact absurd h (Nat.lt_irrefl 0)
  | succ count ih =>
    unfold readBodyOn
    by_cases h0 : r.toProcess = 0
    · rw [if_pos h0]
      have hf : full r := ⟨hh, h0⟩
      exact ⟨bs, sz, hrel, by rw [Ref_full hf, Ref_init], Nat.le_refl _, Or.inr hf⟩
    · rw [if_neg h0]
      have hnf : ¬ full r := fun h => h0 h.2
      have hs := S.step r.toProcess (Nat.pos_of_ne_zero h0) hrel
      rcases hrec : recv r.toProcess t with ⟨res, t'⟩
      rw [hrec] at hs
      cases res with
      | block => exact Sound.block hnf hs
      | closed | error => exact Sound.closed hnf hs
      | bytes d =>
        obtain ⟨a, b, bs', sz', rfl, e, g⟩ := hs
        simp only [if_neg (mt List.isEmpty_iff.mp a)]
        have href := Ref_body_chunk (bs := bs') (acc := acc) hc hh b
        by_cases hcount : count = 0
        · simp only [hcount, if_true]
          exact ⟨bs', sz', e, hc, href, g⟩
        · simp only [hcount, if_false]
          exact Sound.of_step href g (ih _ t' bs' sz' (Nat.pos_of_ne_zero hcount) hc hh e)

/-- how a call goes on after the remaining-length phase: with the outcome of that phase, or with `k` (the body
phase) on the state it leaves -/
def andThen (k : RState → τ → RState × τ × ReadOut) : RState × τ × Option ReadOut → RState × τ × ReadOut
  | (r, t, some out) => (r, t, out)
  | (r, t, none) => k r t

/-- `hfuel`: the loop ends by its own guard, at the fifth length byte, and never by running out of fuel
(`packetReadOn` starts it with fuel 6 and `remCount = 0`) -/
theorem readRemLenOn_sound (k : RState → τ → RState × τ × ReadOut)
    (hk : ∀ r t bs sz, r.command ≠ 0 → r.haveRemaining = true → S.Rel t bs tm sz → Sound S tm acc r bs sz (k r t))
    (fuel : Nat) (r : RState) (t : τ) (bs : Bytes) (sz : Nat) (h : 1 ≤ fuel)
    (hfuel : 5 ≤ fuel + r.remCount) (hc : r.command ≠ 0) (hh : r.haveRemaining = false) (hrel : S.Rel t bs tm sz) :
    Sound S tm acc r bs sz (andThen k (readRemLenOn recv fuel r t)) := by
  induction fuel generalizing r t bs sz with
  | zero => exact absurd h (by decide)
  | succ fuel ih =>
    have hnf : ¬ full r := fun h => Bool.false_ne_true (hh.symm.trans h.1)
    have hs := S.step 1 Nat.one_pos hrel
    unfold readRemLenOn
    rcases hrec : recv 1 t with ⟨res, t'⟩
    rw [hrec] at hs
    cases res with
    | block => exact Sound.block hnf hs
    | closed | error => exact Sound.closed hnf hs
    | bytes d =>
      obtain ⟨a, b, bs', sz', rfl, e, g⟩ := hs
      obtain ⟨byte, rfl⟩ := single_of_le_one a b
      have href : Ref r ([byte] ++ bs') acc = _ := (Ref_not_full hnf).trans (feed_len_step hc hh)
      simp only [rlMax_eval, decide_eq_true_eq]
      by_cases h4 : r.remCount + 1 > 4
      · rw [if_pos h4] at href ⊢
        exact href
      · rw [if_neg h4] at href ⊢
        by_cases hb : byte.toNat &&& 128 = 0
        · rw [if_pos hb] at href ⊢
          exact Sound.of_step href g (hk _ t' bs' sz' hc rfl e)
        · rw [if_neg hb] at href ⊢
          have hf : 1 ≤ fuel ∧ 5 ≤ fuel + (r.remCount + 1) := by omega
          have hnf' : ¬ full (lenStep r byte) := hnf
          exact Sound.of_step (href.trans (Ref_not_full hnf').symm) g
            (ih (lenStep r byte) t' bs' sz' hf.1 hf.2 hc hh e)

theorem packetReadOn_sound (r : RState) (t : τ) (bs : Bytes) (sz : Nat)
    (hg : r.command = 0 → ¬ full r) (hrel : S.Rel t bs tm sz) : Sound S tm acc r bs sz (packetReadOn recv r t) := by
  -- a call that finds the command byte in `_in_packet`: phases 2 and 3
  have rest : ∀ (r : RState) (t : τ) (bs : Bytes) (sz : Nat), r.command ≠ 0 → S.Rel t bs tm sz →
      Sound S tm acc r bs sz (packetReadOn recv r t) := by
    intro r t bs sz hc hrel
    unfold packetReadOn
    simp only [if_neg hc]
    cases hh : r.haveRemaining with
    | true => exact readBodyOn_sound S tm acc _ r t bs sz (by decide) hc hh hrel
    | false =>
      have h := readRemLenOn_sound S tm acc _ (fun r t bs sz => readBodyOn_sound S tm acc Gen.readLoopMax r t bs sz (by decide))
        6 r t bs sz (by decide) (Nat.le_add_right_of_le (by decide)) hc hh hrel
      simp only [Bool.not_false, if_true]
      rcases hres : readRemLenOn recv 6 r t with ⟨r', t', o⟩
      rw [hres] at h
      cases o <;> exact h
  by_cases hc : r.command = 0
  · rw [packetReadOn_cmd recv r t hc]
    have hnf := hg hc
    have hs := S.step 1 Nat.one_pos hrel
    rcases hrec : recv 1 t with ⟨res, t'⟩
    rw [hrec] at hs
    cases res with
    | block => exact Sound.block hnf hs
    | closed | error => exact Sound.closed hnf hs
    | bytes d =>
      obtain ⟨a, b, bs', sz', rfl, e, g⟩ := hs
      obtain ⟨byte, rfl⟩ := single_of_le_one a b
      have href : Ref r ([byte] ++ bs') acc = _ := (Ref_not_full hnf).trans (feed_cmd hc)
      simp only
      by_cases hb : byte.toNat = 0
      · rw [if_pos hb] at href ⊢
        exact href
      · rw [if_neg hb] at href ⊢
        have hnf' : ¬ full { r with command := byte.toNat } := hnf
        exact Sound.of_step (href.trans (Ref_not_full hnf').symm) g (rest _ t' bs' sz' hb e)
  · exact rest r t bs sz hc hrel

/-- the pump's measure: twice what the transport still has to do, plus one when the reader holds a complete packet
(`k`); a call lowers the first or, at least, the second -/
theorem fuel_step {sz sz' k k' fuel : Nat} (h : 2 * sz + k + 1 ≤ fuel + 1) (hk' : k' ≤ 1)
    (hlt : sz' < sz ∨ (sz' ≤ sz ∧ k' < k)) : 2 * sz' + k' + 1 ≤ fuel := by
  omega

theorem owed_le (r : RState) : (if full r then 1 else 0) ≤ 1 := by
  split <;> decide

/-- the pump's result `d` is what the reference automaton computes (`x`), and the transport is left `Done` unless the
pump stopped with a protocol error -/
def PumpOK (x : List (Nat × Bytes) × StreamEnd) (d : List (Nat × Bytes) × RState × τ × PumpEnd) : Prop :=
  d.1 = x.1 ∧ d.2.2.2 = endOfP tm x.2 ∧ (d.2.2.2 ≠ .protocol → S.Done d.2.2.1)

theorem drainOn_ref (fuel : Nat) (r : RState) (t : τ) (bs : Bytes) (sz : Nat)
    (hrel : S.Rel t bs tm sz) (hg : r.command = 0 → ¬ full r) (hfuel : 2 * sz + (if full r then 1 else 0) + 1 ≤ fuel) :
    PumpOK S tm (Ref r bs acc) (drainOn recv idle fuel r t acc) := by
  induction fuel generalizing r t acc bs sz with
  | zero => exact absurd hfuel (Nat.not_succ_le_zero _)
  | succ fuel ih =>
    rw [drainOn]
    by_cases h : idle t = true ∧ ¬ (r.haveRemaining ∧ r.toProcess = 0)
    · obtain ⟨rfl, rfl, hn3⟩ := S.idle_nil hrel h.1
      rw [if_pos h, Ref_not_full h.2]
      exact ⟨rfl, rfl, fun _ => hn3⟩
    · rw [if_neg h]
      have hs := packetReadOn_sound S tm acc r t bs sz hg hrel
      rcases hres : packetReadOn recv r t with ⟨r', t', out⟩
      rw [hres] at hs
      cases out with
      | again =>
        obtain ⟨bs', sz', a, c, d, e⟩ := hs
        simp only [c]
        by_cases hi : idle t' = true
        · obtain ⟨rfl, rfl, hn3⟩ := S.idle_nil a hi
          rw [if_pos hi, Ref_not_full d]
          exact ⟨rfl, rfl, fun _ => hn3⟩
        · rw [if_neg hi]
          exact ih acc r' t' bs' sz' a (fun _ => d) (fuel_step hfuel (owed_le r') (Or.inl (e.resolve_left hi)))
      | againBusy =>
        obtain ⟨bs', sz', a, b, c, d⟩ := hs
        exact c ▸ ih acc r' t' bs' sz' a (fun h => absurd h b) (fuel_step hfuel (owed_le r') (Or.inl d))
      | connLost =>
        obtain ⟨a, rfl, c⟩ := hs
        exact a ▸ ⟨rfl, rfl, fun _ => c⟩
      | protocol => exact (show Ref r bs acc = (acc, .protocol) from hs) ▸ ⟨rfl, rfl, fun h => absurd rfl h⟩
      | complete c b =>
        obtain ⟨bs', sz', a, b', c', d⟩ := hs
        refine b' ▸ ih _ {} t' bs' sz' a (fun _ => not_full_init) (fuel_step hfuel (owed_le {}) (d.imp id fun hf => ⟨c', ?_⟩))
        rw [if_pos hf, if_neg not_full_init]
        exact Nat.one_pos

theorem drainOn_init {fuel : Nat} {t : τ} {bs : Bytes} {sz : Nat} (hrel : S.Rel t bs tm sz) (hfuel : 2 * sz + 1 ≤ fuel) :
    PumpOK S tm (feed {} bs []) (drainOn recv idle fuel {} t []) :=
  Ref_init ▸ drainOn_ref S tm [] fuel {} t bs sz hrel (fun _ => not_full_init) (by rw [if_neg not_full_init]; exact hfuel)

end sound

/-! ### the plain socket -/

/-- size of a raw queue: every byte and every item counts (`drainFuel q = 2 * qSize q + 8`) -/
def qSize (q : List RecvItem) : Nat := (q.map fun i => match i with | .data b => b.length + 1 | _ => 1).sum

theorem readBodyOn_recvN (count : Nat) (r : RState) (q : List RecvItem) :
    readBodyOn recvN count r q = readBody count r q := by
  induction count generalizing r q with
  | zero => rfl
  | succ count ih =>
    unfold readBodyOn readBody
    simp only [ih]
    rcases recvN r.toProcess q with ⟨_ | _ | _ | _, q'⟩ <;> rfl

theorem readRemLenOn_recvN (fuel : Nat) (r : RState) (q : List RecvItem) :
    readRemLenOn recvN fuel r q = readRemLen fuel r q := by
  induction fuel generalizing r q with
  | zero => rfl
  | succ fuel ih =>
    unfold readRemLenOn readRemLen
    simp only [ih]
    rcases recvN 1 q with ⟨_ | _ | _ | _, q'⟩ <;> rfl

/-- the reader of Paho.Model.Reader is the generic reader over `recvN`: the two definitions have the same text, and
each `match` of one is compared with its counterpart in the other on constructors -/
theorem packetReadOn_recvN (r : RState) (q : List RecvItem) : packetReadOn recvN r q = packetRead r q := by
  have rest : ∀ (r : RState) (q : List RecvItem), r.command ≠ 0 → packetReadOn recvN r q = packetRead r q := by
    intro r q hc
    unfold packetReadOn packetRead
    simp only [readRemLenOn_recvN, readBodyOn_recvN, if_neg hc]
    cases r.haveRemaining
    · rcases readRemLen 6 r q with ⟨r2, q2, _ | _⟩ <;> rfl
    · rfl
  by_cases hc : r.command = 0
  · rw [packetReadOn_cmd recvN r q hc, packetRead, if_pos hc]
    obtain ⟨res, q'⟩ := recvN 1 q
    cases res with
    | bytes d =>
      cases d with
      | nil => rfl
      | cons c cs =>
        by_cases hz : c.toNat = 0
        · simp only [hz, if_true]
        · simp only [hz, if_false]
          rw [rest _ q' hz, packetRead, if_neg hz]
    | _ => rfl
  · exact rest r q hc

theorem noEmptyChunks_data (b : Bytes) (rest : List RecvItem) :
    noEmptyChunks (.data b :: rest) = true ↔ b ≠ [] ∧ noEmptyChunks rest = true := by
  simp [noEmptyChunks]

/-- what every `recv` keeps true of a raw queue: no empty chunks, and the terminal event is `tm` -/
def QInv (tm : Bool) (q : List RecvItem) : Prop := noEmptyChunks q = true ∧ tm = terminalOf q

/-- the plain socket as a transport: every `recv` takes an item or some bytes off the queue -/
def recvSpec : TSpec recvN List.isEmpty where
  Rel q bs tm sz := QInv tm q ∧ bs = dataOf q ∧ sz = qSize q
  Done _ := True
  idle_nil := by
    intro q bs tm sz h hi
    rw [List.isEmpty_iff.mp hi] at h
    exact ⟨h.2.1, h.1.2, trivial⟩
  step := by
    intro n q bs tm sz hn ⟨⟨hq, htm⟩, hbs, hsz⟩
    subst hbs htm hsz
    cases q with
    | nil => exact ⟨_, ⟨⟨hq, rfl⟩, rfl, rfl⟩, Or.inl rfl⟩
    | cons i rest =>
      cases i with
      | eagain => exact ⟨_, ⟨⟨hq, rfl⟩, rfl, rfl⟩, Or.inr (Nat.lt_add_of_pos_left Nat.one_pos)⟩
      | eof | err => exact ⟨rfl, rfl, trivial, _, ⟨hq, rfl⟩, rfl, rfl⟩
      | data b =>
        obtain ⟨hb, hr⟩ := (noEmptyChunks_data b rest).mp hq
        by_cases h : b.length ≤ n
        · rw [recvN, if_pos h]
          exact ⟨hb, h, _, _, rfl, ⟨⟨hr, rfl⟩, rfl, rfl⟩, Nat.lt_add_of_pos_left (Nat.succ_pos _)⟩
        · rw [recvN, if_neg h]
          refine ⟨fun h0 => (List.take_eq_nil_iff.mp h0).elim (Nat.ne_of_gt hn) hb, List.length_take_le n b, _, _, ?_,
            ⟨⟨(noEmptyChunks_data _ rest).mpr ⟨fun h0 => h (List.drop_eq_nil_iff.mp h0), hr⟩, rfl⟩, rfl, rfl⟩, ?_⟩
          · show b ++ dataOf rest = b.take n ++ (b.drop n ++ dataOf rest)
            rw [← List.append_assoc, List.take_append_drop]
          · show (b.drop n).length + 1 + qSize rest < b.length + 1 + qSize rest
            rw [List.length_drop]; omega

end Paho.ReaderGen
