/-
The primitives of the session model, `_packet_write`, `loop_write`, `_packet_queue` and the `_send_*` family
are finite paths of the atomic actions of `SessionAct.lean`.
-/
import PahoProofs.Lemmas.SessionActLog
import PahoProofs.Lemmas.InBytes
import PahoProofs.Lemmas.PropsVbi
namespace Paho
namespace SessAct
open S

def connArgs (s : S) : ConnectArgs :=
    { proto := s.proto
      bridge := false
      cleanFlag := s.connectCleanFlag
      keepalive := (s.cfg.keepalive : Int)
      clientId := s.cfg.clientId
      will := none
      username := none
      password := none
      props := none }

theorem encConnect_ok_head {s : S} {bytes : Bytes} (h : encConnect (connArgs s) = .ok bytes) :
    bytes.head? = some 0x10 :=
  InLemmas.encConnect_head rfl rfl h

theorem remLenEncChecked_err {n : Nat} {e : Exc} (h : remLenEncChecked n = .error e) : n > 268435455 := by
  unfold remLenEncChecked at h
  split at h
  · exact of_decide_eq_true ‹_›
  · cases h

/-- keepalive and client id fit 16 bits, so the packet stays far below the length limit -/
theorem encConnect_err {s : S} {e : Exc} (h : encConnect (connArgs s) = .error e) : cfgOk s.cfg = false := by
  refine Bool.eq_false_iff.mpr fun hok => ?_
  simp only [cfgOk, Bool.and_eq_true, decide_eq_true_eq] at hok
  obtain ⟨pp, hpp, hppl⟩ : ∃ pp, packProps s.proto none = .ok pp ∧ pp.length ≤ 1 := by
    unfold packProps; split <;> simp
  simp only [encConnect, connArgs, str16, bind, Except.bind, pure, Except.pure, hpp, PropsLemmas.packU16_ok hok.1,
    PropsLemmas.packU16_ok hok.2, Spec.u16be] at h
  split at h
  · have hlen := remLenEncChecked_err ‹_›
    by_cases hp : s.proto ≥ 4 <;> simp only [hp, ↓reduceIte, List.length_cons, List.length_nil] at hlen <;> omega
  · cases h

/-! `view` is reducible, so an update of a field it does not show needs no lemma. Nested updates are rewritten
with these equations, not left to `rfl`: comparing `(s.emit a).emit b` with `s` field by field is exponential
in the depth. -/

theorem view_emit (s : S) (e : Ev) : view (s.emit e) = vEmit (view s) [e] := rfl

theorem view_setInfo (s : S) (i : Nat) (f : Info → Info) : view (s.setInfo i f) = view s := rfl

theorem vEmit_vEmit (v : View) (a b : List Ev) : vEmit (vEmit v a) b = vEmit v (a ++ b) := by
  simp only [vEmit, List.append_assoc]

theorem vEmit_nil (v : View) : vEmit v [] = v := by
  simp only [vEmit, List.append_nil]

/-- `t` may differ from the state the path has reached in fields the view does not show -/
theorem emit_tr {P : Kind → Bool} {v : View} (t : S) {e : Ev} (hn : neutral e = true := by rfl)
    (hP : P .quiet = true := by rfl) (hv : view t = v := by rfl) : Path P v (view (t.emit e)) :=
  hv ▸ Path.neutral hP [e] rfl (List.forall_mem_singleton.mpr hn)

section ite
variable {α : Type} {P : Kind → Bool} {v : View} {c : Prop} [Decidable c]

/-- instead of `split`, which simplifies the whole goal and is dear when that carries states of the model -/
theorem Path.ite {a b : S} (ha : Path P v (view a)) (hb : Path P v (view b)) :
    Path P v (view (if c then a else b)) := by
  split <;> assumption

theorem Path.ite_fst {a b : S × α} (ha : Path P v (view a.1)) (hb : Path P v (view b.1)) :
    Path P v (view (if c then a else b).1) := by
  split <;> assumption

theorem Path.ite_fst_cases {a b : S × α} (ha : c → Path P v (view a.1)) (hb : ¬ c → Path P v (view b.1)) :
    Path P v (view (if c then a else b).1) := by
  split
  · exact ha ‹_›
  · exact hb ‹_›

end ite

theorem view_regW (s : S) : view s.callSocketRegisterWrite = vRegW (view s) := by
  unfold callSocketRegisterWrite vRegW
  dsimp only
  cases s.sock with
  | none => rfl
  | some c =>
    dsimp only
    by_cases hr : s.regWrite = true
    · rw [if_pos hr, if_pos hr]
    · rw [if_neg hr, if_neg hr]
      by_cases he : s.cfg.ext = true
      · rw [if_pos he, if_pos he]; rfl
      · rw [if_neg he, if_neg he, List.append_nil]

theorem view_unregW (s : S) : view (s.callSocketUnregisterWrite none) = vUnregW (view s) := by
  unfold callSocketUnregisterWrite vUnregW
  dsimp only [Option.or]
  cases s.sock with
  | none => rfl
  | some c =>
    dsimp only
    by_cases hr : s.regWrite = true
    · rw [if_neg (by rw [hr]; decide), if_pos hr]
      by_cases he : s.cfg.ext = true
      · rw [if_pos he, if_pos he]; rfl
      · rw [if_neg he, if_neg he, List.append_nil]
    · rw [if_pos (by simpa using hr), if_neg hr]

theorem view_unregW_some (s : S) (c : Nat) : view (s.callSocketUnregisterWrite (some c)) =
    vEmit { view s with regWrite := false } (if s.regWrite && s.cfg.ext then [Ev.skUnregW c] else []) := by
  unfold callSocketUnregisterWrite
  cases h1 : s.regWrite <;> cases h2 : s.cfg.ext <;> simp [vEmit, emit, h1, h2]

/-- `_call_socket_open` / `_call_socket_close` -/
theorem view_sockCb (s : S) (e : Ev) :
    view (if s.cfg.ext then (if s.inCb then s.emit (.deadlock "_in_callback_mutex") else s.emit e) else s) =
    vEmit (view s) (if (view s).ext then [if (view s).inCb then .deadlock "_in_callback_mutex" else e] else []) := by
  split
  · split <;> rfl
  · exact (vEmit_nil _).symm

theorem view_sockClose (s : S) (r : Bool) : view (s.sockClose r) = vSockClose (view s) r := by
  unfold sockClose vSockClose
  cases h : s.sock with
  | none => simp only [h]
  | some c =>
    simp only [h]
    rw [view_emit, view_sockCb, view_unregW_some, vEmit_vEmit, vEmit_vEmit]
    simp only [closeEvs, List.append_assoc]
    rfl

theorem vSockClose_cstate (v : View) (r : Bool) : (vSockClose v r).cstate = v.cstate := by
  unfold vSockClose; split <;> rfl

theorem sockClose_cstate (s : S) (r : Bool) : (s.sockClose r).cstate = s.cstate :=
  (congrArg View.cstate (view_sockClose s r)).trans (vSockClose_cstate _ r)

theorem sockClose_dod (s : S) (r : Bool) : (s.sockClose r).disconnectingOrDone = dOD (view s) := by
  unfold disconnectingOrDone; rw [sockClose_cstate]; rfl

/-- the shape of all the closing actions -/
theorem view_closeAs (s : S) (x : ConnState) (e : Ev) :
    view (({ s.sockClose with cstate := x } : S).emit e) =
      { vSockClose (view s) false with cstate := x, log := (vSockClose (view s) false).log ++ [e] } := by
  show vEmit { view s.sockClose with cstate := x } [e] = _
  rw [view_sockClose]; rfl

/-- the tail shared by `_loop_rc_handle`, `_check_keepalive` and `loop_misc()`, per branch of its test -/
theorem closeLost_tr {s : S} (hs : s.sock.isSome = true) {rc : RC} (hn : rc.toNat ≠ 0) :
    (s.sockClose.disconnectingOrDone = true →
      TrN (view s) (view (({ s.sockClose with cstate := .disconnected } : S).doOnDisconnect rcSuccess false))) ∧
    (¬ s.sockClose.disconnectingOrDone = true →
      TrN (view s) (view (({ s.sockClose with cstate := .connectionLost } : S).doOnDisconnect rc false))) := by
  rw [sockClose_dod]
  refine ⟨fun hd => ?_, fun hd => ?_⟩ <;>
    refine Path.of_eq_act (Act.closeLost (view s) rc.toNat hs hn) rfl ((view_closeAs ..).trans ?_)
  · rw [vCloseLost, if_pos hd, if_pos hd]; rfl
  · rw [vCloseLost, if_neg hd, if_neg hd]

theorem loopRcHandle_tr (s : S) (rc : RC) (hrc : rc > 0) : TrN (view s) (view (s.loopRcHandle rc).1) := by
  unfold loopRcHandle
  rw [if_pos (Int.ne_of_gt hrc)]
  cases hc : s.sock with
  | none => exact Path.refl _
  | some c =>
    have hl := closeLost_tr (congrArg Option.isSome hc) (Nat.ne_of_gt (Int.pos_iff_toNat_pos.mp hrc))
    exact Path.ite_fst_cases (fun h => nomatch h) fun _ => Path.ite_fst_cases hl.1 hl.2

theorem view_nextSend (s : S) (n : Nat) : view (s.nextSend n).1 = view s := by
  unfold nextSend; split <;> rfl

theorem nextSend_nil {s : S} (h : s.sendScript = []) (n : Nat) : s.nextSend n = (s, .accept n) := by
  unfold nextSend; rw [h]

theorem vRegW_outq (v : View) (q : List OutPkt → List OutPkt) :
    ({ vRegW v with outq := q (vRegW v).outq } : View) = vRegW { v with outq := q v.outq } := by
  unfold vRegW
  dsimp only
  split
  · rfl
  · split <;> rfl

theorem view_emitSock (s : S) (f : Nat → Ev) :
    view (match s.sock with | some c => s.emit (f c) | none => s) =
      vEmit (view s) (match (view s).sock with | some c => [f c] | none => []) := by
  split <;> rename_i h <;> simp only [h]
  · rfl
  · exact (vEmit_nil _).symm

theorem ite_cstate (c : Prop) [Decidable c] (s : S) (x y : ConnState) :
    (if c then { s with cstate := x } else { s with cstate := y }) = { s with cstate := if c then x else y } := by
  split <;> rfl

theorem mem_vWrite_outq {v : View} {pkt : OutPkt} {rest : List OutPkt} {k : Nat} {p : OutPkt}
    (hp : p ∈ (vWrite v pkt rest k).outq) : ∃ q ∈ pkt :: rest, p.command = q.command := by
  unfold vWrite at hp
  dsimp only at hp
  split at hp
  · exact ⟨p, List.mem_cons_of_mem _ hp, rfl⟩
  · rcases List.mem_cons.mp hp with rfl | h
    · exact ⟨pkt, List.mem_cons_self .., rfl⟩
    · exact ⟨p, List.mem_cons_of_mem _ h, rfl⟩

/-- only a completely written DISCONNECT makes a loud step, so without one in the queue the path is quiet -/
theorem packetWrite_path {P : Kind → Bool} (hP : P .quiet = true) : ∀ (fuel : Nat) (s : S),
    (view s).sock.isSome = true → (P .loud = true ∨ ∀ p ∈ (view s).outq, ¬ isDiscCmd p.command) →
    Path P (view s) (view (packetWrite fuel s).1)
  | 0, s, _, _ => emit_tr s rfl hP
  | fuel + 1, s, hs, hd => by
    rw [packetWrite]
    cases hq : s.outq with
    | nil => exact Path.refl _
    | cons pkt rest =>
      have hd' : P .loud = true ∨ ∀ p ∈ pkt :: rest, ¬ isDiscCmd p.command := hq ▸ hd
      dsimp -zeta only
      extract_lets +onlyGivenNames s0 data
      have hv : view (s0.nextSend data.length).1 = { view s with outq := rest } := view_nextSend ..
      generalize s0.nextSend data.length = p at hv ⊢
      -- putting the packet back gives the queue of `s`
      have hput : ({ view p.1 with outq := pkt :: (view p.1).outq } : View) = view s := by rw [hv, ← hq]
      rcases p with ⟨s1, d⟩
      dsimp -zeta only at hv hput ⊢
      cases d with
      | block =>
        refine Path.of_eq_act (Act.regW (view s)) hP ?_
        show ({ view s1.callSocketRegisterWrite with
          outq := pkt :: (view s1.callSocketRegisterWrite).outq } : View) = _
        rw [view_regW, vRegW_outq _ (pkt :: ·)]
        exact congrArg vRegW hput
      | error => exact Path.of_eq hput.symm
      | accept k =>
        dsimp -zeta only
        extract_lets k' s2 pkt' sp s3 s4 s5 s6 s7
        have hle : k' ≤ pkt.bytes.length - pkt.pos := List.length_drop ▸ Nat.min_le_right _ _
        have hv2 : view s2 = vEmit (view s1) _ := view_emitSock s1 fun c => .tx c (data.take k')
        rw [hv] at hv2
        clear_value s2
        refine Path.ite_fst_cases (fun hk => ?_) (fun _ => Path.of_eq hput.symm)
        have hw := Act.write (view s) pkt rest k' hq hk (by omega)
        have ih : ∀ (t : S) (evs : List Ev), view t = vEmit (vWrite (view s) pkt rest k') evs →
            Path P (view t) (view (packetWrite fuel t).1) := fun t evs ht =>
          packetWrite_path hP fuel t (by rw [ht]; exact hs) (by
            rw [ht]; exact hd'.imp_right fun h p hp =>
              let ⟨q, hq, e⟩ := mem_vWrite_outq (v := view s) hp; e ▸ h q hq)
        refine Path.ite_fst_cases (fun hfull => ?_) (fun hfull => ?_)
        · have hv1 : view s2 = vWrite (view s) pkt rest k' := by
            rw [hv2]; unfold vWrite; rw [if_pos hfull]; rfl
          refine Path.ite_fst_cases (fun hdisc => ?_) (fun _ => ?_)
          · have hl : P .loud = true := hd'.resolve_right fun h => h pkt (List.mem_cons_self ..) hdisc
            have hv4 : view s4 = vWrite (view s) pkt rest k' :=
              (congrArg view (if_neg fun h => absurd (h.1 ▸ hdisc) (by decide) : s3 = s2)).trans hv1
            refine Path.of_eq_act (Act.writeDisc (view s) pkt rest k' hs hq hk hfull hdisc) hl ?_
            show view (s6.emit _) = _
            unfold s6 s5
            rw [ite_cstate, sockClose_cstate, show s4.cstate = (view s).cstate from congrArg View.cstate hv4,
              view_closeAs, hv4]
            rfl
          · -- `on_publish` for a QoS 0 PUBLISH
            have hv3 : ∃ evs, (∀ e ∈ evs, neutral e = true) ∧ view s3 = vEmit (view s2) evs := by
              unfold s3
              split
              · split
                · exact ⟨_, List.forall_mem_cons.mpr ⟨rfl, List.forall_mem_singleton.mpr rfl⟩, by
                    rw [view_emit, view_setInfo, view_emit]; exact vEmit_vEmit ..⟩
                · exact ⟨_, List.forall_mem_cons.mpr ⟨rfl, List.forall_mem_singleton.mpr rfl⟩, by
                    rw [view_emit, view_emit]; exact vEmit_vEmit ..⟩
              · exact ⟨[], List.forall_mem_nil _, (vEmit_nil _).symm⟩
            obtain ⟨evs, hn, hv3⟩ := hv3
            rw [hv1] at hv3
            exact (Path.single hw hP).trans ((Path.neutral hP evs hv3 hn).trans (ih _ evs hv3))
        · have hv1 : view { s2 with outq := pkt' :: s2.outq } = vWrite (view s) pkt rest k' := by
            show ({ view s2 with outq := pkt' :: (view s2).outq } : View) = _
            rw [hv2]; unfold vWrite; rw [if_neg hfull]; rfl
          exact (Path.of_eq_act hw hP hv1).trans (ih _ [] (hv1.trans (vEmit_nil _).symm))

/-- with nothing scripted the transport accepts everything -/
theorem packetWrite_rc : ∀ (fuel : Nat) (s : S), s.sendScript = [] → (packetWrite fuel s).2 = rcSuccess
  | 0, _, _ => rfl
  | fuel + 1, s, hsc => by
    rw [packetWrite]
    cases s.outq with
    | nil => rfl
    | cons pkt rest =>
      dsimp -zeta only
      extract_lets +onlyGivenNames s0 data
      rw [nextSend_nil (s := s0) hsc]
      dsimp -zeta only
      extract_lets k s2 pkt' sp s3
      have h2 : s2.sendScript = [] := by unfold s2; split <;> exact hsc
      have h3 : s3.sendScript = [] := by
        unfold s3 sp
        split
        · split <;> simp only [emit, setInfo, h2]
        · exact h2
      clear_value s3 s2
      by_cases hk : k > 0
      · rw [if_pos hk]
        by_cases hfull : pkt'.pos = pkt'.bytes.length
        · rw [if_pos hfull]
          by_cases hdisc : pkt'.command &&& 0xF0 = 0xE0
          · rw [if_pos hdisc]
          · rw [if_neg hdisc]; exact packetWrite_rc fuel _ h3
        · rw [if_neg hfull]; exact packetWrite_rc fuel _ h2
      · rw [if_neg hk]

/-- the `finally:` of `loop_write` -/
theorem wantWrite_tr {P : Kind → Bool} (hP : P .quiet = true) (s : S) : Path P (view s)
    (view (if s.wantWrite = true then s.callSocketRegisterWrite else s.callSocketUnregisterWrite none)) := by
  split
  · rw [view_regW]; exact Path.single (Act.regW _) hP
  · rw [view_unregW]; exact Path.single (Act.unregW _) hP

theorem loopWrite_tr (s : S) : TrN (view s) (view s.loopWrite.1) := by
  unfold loopWrite
  cases hc : s.sock with
  | none => exact Path.refl _
  | some c =>
    dsimp -zeta only
    have h1 := packetWrite_path (P := Kind.isNormal) rfl s.writeFuel s (congrArg Option.isSome hc) (Or.inl rfl)
    generalize s.packetWrite s.writeFuel = p at h1 ⊢
    generalize hq : (ite (p.2 = rcAgain) _ _ : S × RC) = q
    have h2 : TrN (view s) (view q.1) := hq ▸ Path.ite_fst h1
      (Path.ite_fst_cases (fun hpos => h1.trans (loopRcHandle_tr p.1 p.2 hpos)) (fun _ => h1))
    exact h2.trans (wantWrite_tr rfl _)

theorem loopWrite_quiet (s : S) (hs : s.sock.isSome = true) (hsc : s.sendScript = []) (hnd : ∀ p ∈ s.outq, ¬ isDiscCmd p.command) :
    Tr0 (view s) (view s.loopWrite.1) ∧ s.loopWrite.2 = rcSuccess := by
  unfold loopWrite
  cases hc : s.sock with
  | none => rw [hc] at hs; cases hs
  | some c =>
    dsimp only
    have h1 := packetWrite_path (P := Kind.isQuiet) rfl s.writeFuel s hs (Or.inr hnd)
    have h2 := packetWrite_rc s.writeFuel s hsc
    generalize s.packetWrite s.writeFuel = p at h1 h2 ⊢
    rcases p with ⟨s1, rc⟩
    dsimp only at h1 h2 ⊢
    subst h2
    rw [if_neg (show ¬ rcSuccess = rcAgain by decide), if_neg (show ¬ rcSuccess > 0 by decide)]
    exact ⟨h1.trans (wantWrite_tr rfl _), rfl⟩

/-- the first half of `_packet_queue` -/
def enqS (s : S) (pkt : OutPkt) : S :=
  match ({ s with outq := s.outq ++ [pkt] } : S).sock with
  | some c => ({ s with outq := s.outq ++ [pkt] } : S).emit (.queued c pkt.bytes)
  | none => { s with outq := s.outq ++ [pkt] }

theorem packetQueue_eq (s : S) (pkt : OutPkt) (direct : Bool) :
    s.packetQueue pkt direct =
      if !(enqS s pkt).cfg.ext ∧ direct ∧ !(enqS s pkt).inCb then (enqS s pkt).loopWrite
      else ((enqS s pkt).callSocketRegisterWrite, rcSuccess) := rfl

theorem view_enqS (s : S) (pkt : OutPkt) : view (enqS s pkt) = vEnq (view s) pkt :=
  view_emitSock { s with outq := s.outq ++ [pkt] } fun c => .queued c pkt.bytes

theorem packetQueue_tr (s : S) {command mid qos : Nat} {bytes : Bytes} {info : Option Nat} (direct : Bool)
    {c : UInt8} (hb : bytes.head? = some c) (hc : c ≠ 0x10) (hd : ¬ isDiscCmd command ∨ s.discCalled = true) :
    TrN (view s) (view (s.packetQueue (mkPkt command mid qos bytes info) direct).1) := by
  have hf : Fresh (mkPkt command mid qos bytes info) :=
    ⟨rfl, fun (e : bytes = []) => (nomatch e ▸ hb), fun e => hc (Option.some.inj (hb.symm.trans e))⟩
  have h1 := Path.of_eq_act (P := Kind.isNormal) (Act.enq (view s) _ hf hd.neg_resolve_left) rfl (view_enqS s _)
  rw [packetQueue_eq]
  split
  · exact h1.trans (loopWrite_tr _)
  · simp only [view_regW]
    exact h1.trans (Path.single (Act.regW _) rfl)

theorem not_disc_of_ne {c : Nat} (h : c &&& 0xF0 ≠ 0xE0) : ¬ isDiscCmd c := h

theorem sendPublish_tr (s : S) (mid : Nat) (topic payload : Bytes) (qos : Nat) (retain dup : Bool)
    (info : Option Nat) (direct : Bool) (uid : Option Nat) :
    TrN (view s) (view (s.sendPublish mid topic payload qos retain dup info direct uid).1) := by
  unfold sendPublish
  split
  · exact Path.refl _
  · cases henc : encPublish s.proto mid topic payload qos retain dup none with
    | error e => exact emit_tr s
    | ok bytes =>
      dsimp -zeta only
      extract_lets s1
      have h : TrN (view s) (view s1) := by
        unfold s1
        cases uid with
        | none => exact Path.refl _
        | some u => exact emit_tr s
      refine h.trans (packetQueue_tr s1 direct (InLemmas.encPublish_head henc) (InLemmas.b8_ne_of_bit5 ?_) (.inl (by decide)))
      simp [Nat.testBit_or, show Nat.testBit 48 5 = true by decide]

theorem sendCmdMid_tr (s : S) (command mid : Nat) (direct : Bool) (hc : b8 command ≠ 0x10 := by decide)
    (hd : ¬ isDiscCmd command := by decide) : TrN (view s) (view (s.sendCmdMid command mid direct).1) := by
  unfold sendCmdMid
  split
  · exact emit_tr _
  · rename_i bytes henc
    exact packetQueue_tr _ _ (InLemmas.encCmdMid_head henc) hc (.inl hd)

theorem sendPuback_tr (s : S) (mid : Nat) : TrN (view s) (view (s.sendPuback mid).1) :=
  sendCmdMid_tr s 0x40 mid true
theorem sendPubrec_tr (s : S) (mid : Nat) : TrN (view s) (view (s.sendPubrec mid).1) :=
  sendCmdMid_tr s 0x50 mid true
theorem sendPubcomp_tr (s : S) (mid : Nat) : TrN (view s) (view (s.sendPubcomp mid).1) :=
  sendCmdMid_tr s 0x70 mid true

theorem sendPubrel_tr (s : S) (mid : Nat) (direct : Bool) : TrN (view s) (view (s.sendPubrel mid direct).1) := by
  unfold sendPubrel
  extract_lets s1
  have h : TrN (view s) (view s1) := by
    unfold s1
    split
    · exact emit_tr s
    · exact Path.refl _
  exact h.trans (sendCmdMid_tr s1 0x62 mid direct)

theorem sendSimple_tr (s : S) (command : Nat) (hc : b8 command ≠ 0x10 := by decide)
    (hd : ¬ isDiscCmd command := by decide) : TrN (view s) (view (s.sendSimple command).1) :=
  packetQueue_tr s true rfl hc (.inl hd)

end SessAct
end Paho
