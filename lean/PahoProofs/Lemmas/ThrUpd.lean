/-
C07: common to the four transition systems of Paho/Model/Threads.lean: `upd` on their per-thread tables, and the
induction over schedules (`run_inv`).
-/
import Paho.Model.Threads
namespace Paho.Thr

@[simp] theorem upd_same {α : Type} (f : Tid → α) (t : Tid) (v : α) : upd f t v t = v := if_pos rfl

theorem upd_other {α : Type} (f : Tid → α) (t : Tid) (v : α) {x : Tid} (h : x ≠ t) : upd f t v x = f x := if_neg h

/-- `run` skips the steps that are not enabled; `hstep` may use that its action occurs in the schedule. -/
theorem run_inv {S A : Type} {step : S → Tid → A → Option S} {run : S → List (Tid × A) → S} (hnil : ∀ s, run s [] = s)
    (hcons : ∀ s t a rest, run s ((t, a) :: rest) = run ((step s t a).getD s) rest) {P : S → Prop}
    (sched : List (Tid × A)) (hstep : ∀ s t a s', (t, a) ∈ sched → P s → step s t a = some s' → P s')
    (s : S) (h : P s) : P (run s sched) := by
  induction sched generalizing s with
  | nil => rwa [hnil]
  | cons x rest ih =>
    obtain ⟨t, a⟩ := x
    rw [hcons]
    refine ih (fun s t a s' hx => hstep s t a s' (List.mem_cons_of_mem _ hx)) _ ?_
    cases hs : step s t a with
    | none => exact h
    | some s' => exact hstep s t a s' List.mem_cons_self h hs

end Paho.Thr
