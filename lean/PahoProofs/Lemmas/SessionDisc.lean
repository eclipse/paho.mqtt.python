/-
Accounting of `on_disconnect` callbacks (C10) on the action machine of `SessionAct.lean`: quiet, reconn and disc
actions log neither an `on_disconnect` nor a non-replacement close; a loud action needs an open socket, logs one of
each and closes the socket, so along a normal path at most one contributes.
-/
import PahoProofs.Lemmas.SessionInvState

namespace Paho
namespace SessAct

variable {v v' : View}

namespace Disc

/-- `on_disconnect` callback -/
def isD (e : Ev) : Bool := match e with | .onDisconnect _ _ => true | _ => false
/-- non-replacement close -/
def isC (e : Ev) : Bool := match e with | .sclose _ false => true | _ => false

def nd (evs : List Ev) : Nat := (evs.filter isD).length
def nc (evs : List Ev) : Nat := (evs.filter isC).length

theorem stepDiscOk_eq (evs : List Ev) : stepDiscOk evs = (nd evs == nc evs && decide (nc evs ≤ 1)) := rfl

@[simp] theorem nd_nil : nd [] = 0 := rfl
@[simp] theorem nc_nil : nc [] = 0 := rfl
@[simp] theorem nd_append (a b : List Ev) : nd (a ++ b) = nd a + nd b := by simp [nd]
@[simp] theorem nc_append (a b : List Ev) : nc (a ++ b) = nc a + nc b := by simp [nc]

def Silent (evs : List Ev) : Prop := ∀ e ∈ evs, isD e = false ∧ isC e = false

theorem Silent.nd {evs : List Ev} (h : Silent evs) : nd evs = 0 :=
  List.length_eq_zero_iff.2 (List.filter_eq_nil_iff.2 fun e he => Bool.not_eq_true _ ▸ (h e he).1)
theorem Silent.nc {evs : List Ev} (h : Silent evs) : nc evs = 0 :=
  List.length_eq_zero_iff.2 (List.filter_eq_nil_iff.2 fun e he => Bool.not_eq_true _ ▸ (h e he).2)
theorem Silent.notMem {evs : List Ev} (h : Silent evs) (rc : Nat) (b : Bool) : Ev.onDisconnect rc b ∉ evs :=
  fun he => nomatch (h _ he).1
theorem Silent.nil : Silent [] := fun _ he => absurd he List.not_mem_nil
theorem Silent.append {a b : List Ev} (ha : Silent a) (hb : Silent b) : Silent (a ++ b) := by
  intro e he; rcases List.mem_append.1 he with h | h
  · exact ha e h
  · exact hb e h
theorem Silent.single {e : Ev} (hd : isD e = false) (hc : isC e = false) : Silent [e] :=
  fun _ he => List.mem_singleton.1 he ▸ ⟨hd, hc⟩

theorem silent_of_neutral {evs : List Ev} (h : ∀ e ∈ evs, neutral e = true) : Silent evs := by
  intro e he
  have := h e he
  cases e <;> first | exact ⟨rfl, rfl⟩ | cases this

theorem silent_openEvs (v : View) (pkt : Option OutPkt) : Silent (openEvs v pkt) := by
  intro e he
  rcases mem_openEvs he with rfl | rfl | rfl | ⟨_, _, rfl⟩ | rfl <;> exact ⟨rfl, rfl⟩

theorem quiet_facts (h : Act .quiet v v') :
    v'.sock = v.sock ∧ v'.discCalled = v.discCalled ∧ ∃ evs, v'.log = v.log ++ evs ∧ Silent evs := by
  let P (w : View) := w.sock = v.sock ∧ w.discCalled = v.discCalled ∧ ∃ evs, w.log = v.log ++ evs ∧ Silent evs
  have same : P v := ⟨rfl, rfl, [], (List.append_nil _).symm, Silent.nil⟩
  have reg : P (vRegW v) ∧ P (vUnregW v) := reg_cases same fun _ _ _ _ =>
    ⟨rfl, rfl, _, rfl, fun e he => by rcases mem_regEvs he with rfl | rfl <;> exact ⟨rfl, rfl⟩⟩
  cases h with
  | emit _ evs hn => exact ⟨rfl, rfl, evs, rfl, silent_of_neutral hn⟩
  | regW => exact reg.1
  | unregW => exact reg.2
  | enq | write =>
    refine ⟨rfl, rfl, _, rfl, ?_⟩
    split
    · exact .single rfl rfl
    · exact .nil
  | setNoSock | connack => exact same

theorem silent_vSockClose_true (v : View) : ∃ evs, (vSockClose v true).log = v.log ++ evs ∧ Silent evs := by
  cases hs : v.sock with
  | none => exact ⟨[], by rw [vSockClose_none hs, List.append_nil], Silent.nil⟩
  | some c =>
    refine ⟨_, by rw [vSockClose_some hs], fun e he => ?_⟩
    rcases mem_closeEvs he with rfl | rfl | rfl | rfl <;> exact ⟨rfl, rfl⟩

theorem reconn_facts (h : Act .reconn v v') :
    ∃ evs, v'.log = v.log ++ evs ∧ Silent evs := by
  cases h with
  | closeReplace _ x _ => exact silent_vSockClose_true _
  | clearQ _ _ => exact ⟨[], (List.append_nil _).symm, Silent.nil⟩
  | openConnect _ pkt _ _ _ _ => exact ⟨_, vOpen_log v _, silent_openEvs v _⟩
  | openNoConnect _ _ _ _ _ => exact ⟨_, vOpen_log v _, silent_openEvs v _⟩

theorem dOD_iff (hi : InvS v) (hs : v.sock.isSome = true) : dOD v = true ↔ v.discCalled = true := by
  have := hi.disc hs
  simp only [dOD, Bool.or_eq_true, decide_eq_true_eq]
  rw [← this.1]
  exact ⟨fun h => h.elim id fun h => absurd h this.2, Or.inl⟩

theorem closeEvs_loud {c : Nat} (hc : v.sock = some c) (rc : Nat) (b : Bool) :
    ∃ evs, (vSockClose v false).log ++ [Ev.onDisconnect rc b] = v.log ++ evs ∧ nd evs = 1 ∧ nc evs = 1 ∧
      ∀ rc' b', Ev.onDisconnect rc' b' ∈ evs → rc' = rc ∧ b' = b := by
  obtain ⟨pre, hpre, hp⟩ := closeEvs_eq v c false
  have hsil : Silent pre := fun e he => by rcases hp e he with rfl | rfl | rfl <;> exact ⟨rfl, rfl⟩
  refine ⟨pre ++ [Ev.sclose c false, Ev.onDisconnect rc b], ?_, ?_, ?_, fun rc' b' hm => ?_⟩
  · rw [vSockClose_some hc]
    show (v.log ++ closeEvs v c false) ++ _ = _
    rw [hpre]
    simp only [List.append_assoc, List.cons_append, List.nil_append]
  · rw [nd_append, hsil.nd]; rfl
  · rw [nc_append, hsil.nc]; rfl
  · rcases List.mem_append.1 hm with hm | hm
    · exact absurd hm (hsil.notMem rc' b')
    · rw [List.mem_cons, List.mem_singleton] at hm
      rcases hm with hm | hm <;> cases hm
      exact ⟨rfl, rfl⟩

theorem loud_facts (h : Act .loud v v') (hi : InvS v) :
    v.sock.isSome = true ∧ v'.sock = none ∧ ∃ evs, v'.log = v.log ++ evs ∧ nd evs = 1 ∧ nc evs = 1 ∧
      ∀ rc, Ev.onDisconnect rc false ∈ evs → (rc = 0 ↔ v.discCalled = true) := by
  cases h with
  | writeDisc _ pkt rest k hs hq hk hpos hd =>
    obtain ⟨c, hc⟩ := Option.isSome_iff_exists.1 hs
    have hdc : v.discCalled = true := hi.discq hs pkt (hq ▸ List.mem_cons_self) hd
    obtain ⟨evs, hl, h1, h2, hm⟩ := closeEvs_loud (v := vWrite v pkt rest k) hc 0 false
    refine ⟨hs, vSockClose_sock _ _, Ev.tx c ((pkt.bytes.drop pkt.pos).take k) :: evs,
      hl.trans (by rw [vWrite_log hc, List.append_assoc]; rfl), (nd_append [_] evs).trans ((Nat.zero_add _).trans h1),
      (nc_append [_] evs).trans ((Nat.zero_add _).trans h2), fun rc he => ?_⟩
    obtain ⟨rfl, _⟩ := hm rc false ((List.mem_cons.1 he).resolve_left nofun)
    exact ⟨fun _ => hdc, fun _ => rfl⟩
  | closeLost _ n hs hn =>
    obtain ⟨c, hc⟩ := Option.isSome_iff_exists.1 hs
    obtain ⟨evs, hl, h1, h2, hm⟩ := closeEvs_loud hc (if dOD v then 0 else n) false
    refine ⟨hs, vSockClose_sock _ _, evs, hl, h1, h2, fun rc he => ?_⟩
    obtain ⟨rfl, _⟩ := hm rc false he
    rw [← dOD_iff hi hs]
    split
    · exact ⟨fun _ => ‹_›, fun _ => rfl⟩
    · exact ⟨fun h => absurd h hn, fun h => absurd h ‹_›⟩
  | closeBroker _ n hs =>
    obtain ⟨c, hc⟩ := Option.isSome_iff_exists.1 hs
    obtain ⟨evs, hl, h1, h2, hm⟩ := closeEvs_loud hc n true
    exact ⟨hs, vSockClose_sock _ _, evs, hl, h1, h2, fun rc he => nomatch (hm rc false he).2⟩

end Disc

open Disc

/-- On a normal path at most one connection ends, with exactly one on_disconnect, whose client-generated code is 0 iff
disconnect() had been called on it when the path started; without a socket nothing ends. -/
theorem TrN.disc (h : TrN v v') (hi : InvS v) :
    ∃ evs, v'.log = v.log ++ evs ∧ stepDiscOk evs = true ∧
      (∀ rc, Ev.onDisconnect rc false ∈ evs → (rc = 0 ↔ v.discCalled = true)) ∧
      (v.sock = none → Silent evs ∧ v'.sock = none) := by
  induction h with
  | refl v => exact ⟨[], (List.append_nil _).symm, rfl, fun _ he => absurd he List.not_mem_nil,
    fun h => ⟨.nil, h⟩⟩
  | @cons k v v1 v2 ha hk _ ih =>
    obtain ⟨evs2, hl2, hok2, hr2, hn2⟩ := ih (ha.invS hi)
    cases k with
    | quiet =>
      obtain ⟨hs, hd, evs1, hl1, hsil⟩ := quiet_facts ha
      refine ⟨evs1 ++ evs2, by rw [hl2, hl1, List.append_assoc], ?_, ?_, ?_⟩
      · rw [stepDiscOk_eq, nd_append, nc_append, hsil.nd, hsil.nc, Nat.zero_add, Nat.zero_add]
        exact hok2
      · intro rc he
        rcases List.mem_append.1 he with he | he
        · exact absurd he (hsil.notMem _ _)
        · rw [← hd]; exact hr2 rc he
      · intro h0
        obtain ⟨hsil2, h2⟩ := hn2 (hs.trans h0)
        exact ⟨hsil.append hsil2, h2⟩
    | loud =>
      -- the loud action closes the socket, so the rest of the path is silent
      obtain ⟨hs, hs1, evs1, hl1, h1, h2, hr1⟩ := loud_facts ha hi
      obtain ⟨hsil2, _⟩ := hn2 hs1
      refine ⟨evs1 ++ evs2, by rw [hl2, hl1, List.append_assoc], ?_, ?_, ?_⟩
      · rw [stepDiscOk_eq, nd_append, nc_append, h1, h2, hsil2.nd, hsil2.nc]
        rfl
      · intro rc he
        rcases List.mem_append.1 he with he | he
        · exact hr1 rc he
        · exact absurd he (hsil2.notMem _ _)
      · intro hn; rw [hn] at hs; cases hs
    | reconn => cases hk
    | disc => cases hk

theorem Disc.trQ_silent (h : TrQ v v') : ∃ evs, v'.log = v.log ++ evs ∧ Silent evs := by
  induction h with
  | refl v => exact ⟨[], (List.append_nil _).symm, Silent.nil⟩
  | @cons k v v1 v2 ha hk _ ih =>
    obtain ⟨evs2, hl2, hs2⟩ := ih
    have hev : ∃ evs, v1.log = v.log ++ evs ∧ Silent evs := by
      cases k with
      | quiet => exact (quiet_facts ha).2.2
      | reconn => exact reconn_facts ha
      | loud => cases hk
      | disc => cases hk
    obtain ⟨evs1, hl1, hs1⟩ := hev
    exact ⟨evs1 ++ evs2, by rw [hl2, hl1, List.append_assoc], hs1.append hs2⟩

end SessAct
end Paho
