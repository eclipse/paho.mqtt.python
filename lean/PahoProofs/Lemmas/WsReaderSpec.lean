/-
The WebSocket transport (`wsRecv` over wrapper + raw socket) satisfies the transport specification `TSpec` of the
generic packet reader, for every list of well-formed frames whose encoding the raw queue delivers completely:
what it will deliver (`bs`) is the not yet delivered part of the data-frame payloads.
-/
import PahoProofs.Lemmas.WsReaderAux
import PahoProofs.Lemmas.WsRecvRun
namespace Paho.Ws
open Paho Paho.ReaderLemmas Paho.ReaderGen

/-- payload bytes of the data frames `fs` not yet handed to the caller (`ph` = `_payload_head`) -/
def undelivered (fs : List Frame) (ph : Nat) : Bytes := (dataOf fs).drop (partialData fs ph).length

theorem undelivered_eq {fs : List Frame} {ph : Nat} {u : Bytes} (h : partialData fs ph ++ u = dataOf fs) :
    undelivered fs ph = u := by
  unfold undelivered
  rw [← h]
  exact List.drop_left

theorem undelivered_step {cons fs' : List Frame} {ph ph' : Nat} {d : Bytes}
    (hdata : partialData (cons ++ fs') ph ++ d = dataOf cons ++ partialData fs' ph') :
    undelivered (cons ++ fs') ph = d ++ undelivered fs' ph' := by
  obtain ⟨u', hu'⟩ := partialData_prefix fs' ph'
  rw [undelivered_eq hu']
  exact undelivered_eq (by rw [← List.append_assoc, hdata, List.append_assoc, hu', dataOf_append])

theorem encs_eq_nil {fs : List Frame} (h : encs fs = []) : fs = [] := by
  cases fs with
  | nil => rfl
  | cons f rest => simp [encs, Frame.enc] at h

/-- `WsRel frames t bs tm sz`: `t` is a state of wrapper + raw socket reached while receiving `frames`; the raw queue
(no empty chunks) delivers exactly the frames not yet consumed; `bs` = undelivered data payload, `tm` = the raw queue
ends with EOF / error; the replies written so far are those owed for the consumed frames -/
def WsRel (frames : List Frame) (t : WsT) (bs : Bytes) (tm : Bool) (sz : Nat) : Prop :=
  ∃ done fs, frames = done ++ fs ∧ Inv fs t.st t.q ∧ t.st.readbuffer ++ flat t.q = encs fs ∧ QInv tm t.q ∧
    bs = undelivered fs t.st.payloadHead ∧ sz = mu fs t.st t.q ∧
    ((∀ f ∈ frames, f.ctlUnmasked) → t.sent = owedAll done)

/-- every frame consumed, the wrapper back in its initial state, every owed reply written -/
def WsDone (frames : List Frame) (t : WsT) : Prop :=
  t.st.readbuffer = [] ∧ flat t.q = [] ∧ t.st.payloadHead = 0 ∧
  ((∀ f ∈ frames, f.ctlUnmasked) → t.sent = owedAll frames)

/-- nothing buffered and nothing more to come: every frame has been consumed -/
theorem wsRel_done {frames : List Frame} {t : WsT} {bs : Bytes} {tm : Bool} {sz : Nat} (h : WsRel frames t bs tm sz)
    (hb : t.st.readbuffer = []) (hf : flat t.q = []) : bs = [] ∧ WsDone frames t := by
  obtain ⟨done, fs, rfl, hI, hc, -, rfl, -, hsent⟩ := h
  obtain rfl : fs = [] := encs_eq_nil (by rw [← hc, hb, hf]; rfl)
  rw [List.append_nil] at hsent ⊢
  exact ⟨rfl, hb, hf, hI.2.2, hsent⟩

def wsSpec (frames : List Frame) : TSpec wsRecv wsIdle where
  Rel := WsRel frames
  Done := WsDone frames
  idle_nil := by
    intro t bs tm sz h hi
    simp only [wsIdle, Bool.and_eq_true, List.isEmpty_iff] at hi
    have hd := wsRel_done h hi.2 (by rw [hi.1]; rfl)
    obtain ⟨_, _, _, _, _, hq, _⟩ := h
    exact ⟨hd.1, by rw [hq.2, hi.1]; rfl, hd.2⟩
  step := by
    intro n t bs tm sz hn h
    -- keep the result of the call out of sight until it is taken apart (the goal is a `match` on it)
    generalize hw : wsRecv n t = w
    obtain ⟨done, fs, rfl, hI, hc, hq, rfl, rfl, hsent⟩ := h
    obtain ⟨cons, fs', hstep⟩ := recv_step fs t.st t.q n hI
    have haux := recvImpl_aux fs t.st n hI hc hq
    have hempty := recv_empty t.st t.q n
    unfold wsRecv at hw
    rcases hr : recvImpl t.st t.q n with ⟨st', q', res, s⟩
    rw [hr] at hstep haux hempty hw
    obtain ⟨rfl, hinv, hdata, hsnt, hbound, hnonempty, -, hcomplete, -⟩ := hstep
    simp only at haux hempty hinv hdata hsnt hbound hnonempty hcomplete
    obtain ⟨hc', hprog⟩ := hcomplete hc
    have hU := undelivered_step hdata
    have hrel : WsRel (done ++ (cons ++ fs')) { st := st', q := q', sent := t.sent ++ s }
        (undelivered fs' st'.payloadHead) tm (mu fs' st' q') := by
      refine ⟨done ++ cons, fs', (List.append_assoc ..).symm, hinv, hc', haux.1, rfl, rfl, fun hctl => ?_⟩
      show t.sent ++ s = owedAll (done ++ cons)
      rw [hsent hctl, owedAll_append,
        hsnt fun f hf => hctl f (List.mem_append_right _ (List.mem_append_left _ hf))]
    cases res with
    | wouldBlock =>
      subst hw
      refine ⟨_, by rw [hU]; exact hrel, ?_⟩
      by_cases hfs : cons ++ fs' = []
      · obtain ⟨rfl, rfl⟩ := List.append_eq_nil_iff.mp hfs
        have hb := List.append_eq_nil_iff.mp hc
        refine (hempty hb.1 hb.2 hq.1 rfl).imp (fun h1 => ?_) id
        simp [wsIdle, h1, (List.append_eq_nil_iff.mp hc').1]
      · exact Or.inr (hprog hn hfs)
    | closed =>
      subst hw
      obtain ⟨htm, hnil⟩ := haux.2 rfl
      obtain ⟨rfl, rfl⟩ := List.append_eq_nil_iff.mp hnil
      have hb' := List.append_eq_nil_iff.mp hc'
      exact ⟨rfl, htm, (wsRel_done hrel hb'.1 hb'.2).2, _, hrel⟩
    | data d =>
      subst hw
      have hfs : cons ++ fs' ≠ [] := by
        intro h0
        obtain ⟨rfl, rfl⟩ := List.append_eq_nil_iff.mp h0
        exact hnonempty d rfl hn (List.append_eq_nil_iff.mp (hU.symm : d ++ _ = [])).1
      exact ⟨hnonempty d rfl hn, hbound, _, _, hU, hrel, hprog hn hfs⟩

theorem wsRel_init (frames : List Frame) (hwf : ∀ f ∈ frames, f.wf) (q : List RecvItem) (hq : noEmptyChunks q = true)
    (hflat : flat q = encs frames) :
    WsRel frames { st := {}, q := q, sent := [] } (dataOf frames) (terminalOf q) (mu frames {} q) :=
  ⟨[], frames, rfl, inv_init frames hwf q (hflat ▸ List.prefix_refl _), by simpa using hflat, ⟨hq, rfl⟩,
    (undelivered_eq (by rw [partialData_zero]; rfl)).symm, rfl, fun _ => rfl⟩

end Paho.Ws
