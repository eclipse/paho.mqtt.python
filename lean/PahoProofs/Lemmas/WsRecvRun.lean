/-
Repeated `_recv_impl` calls: `runRecv` and the run invariant obtained from `recv_step` by induction on the calls.
-/
import PahoProofs.Lemmas.WsRecvStep
namespace Paho.Ws
open Paho

structure RecvRun where
  st : RecvSt
  q : List RecvItem
  results : List RecvRes    -- outcome of each call
  sent : List Bytes         -- frames written to the raw socket, in order
  deriving DecidableEq, Repr

/-- call `_recv_impl(n)` for each `n` of the list, on the same wrapper and socket -/
def runRecv : RecvSt → List RecvItem → List Nat → RecvRun
  | st, q, [] => { st := st, q := q, results := [], sent := [] }
  | st, q, n :: ns =>
    let o := recvImpl st q n
    let r := runRecv o.1 o.2.1 ns
    { st := r.st, q := r.q, results := o.2.2.1 :: r.results, sent := o.2.2.2 ++ r.sent }

/-- all bytes returned to the caller, in order -/
def delivered : List RecvRes → Bytes
  | [] => []
  | r :: rs => bytesOf r ++ delivered rs

/-- per call: never more than requested, and never b'' for a request of at least one byte -/
def CallOk (n : Nat) (res : RecvRes) : Prop :=
  (bytesOf res).length ≤ n ∧ ∀ b, res = .data b → 1 ≤ n → b ≠ []

def CallsOk : List Nat → List RecvRes → Prop
  | [], [] => True
  | n :: ns, r :: rs => CallOk n r ∧ CallsOk ns rs
  | _, _ => False

theorem run_inv (lens : List Nat) (fs : List Frame) (st : RecvSt) (q : List RecvItem) (hI : Inv fs st q) :
    let r := runRecv st q lens
    ∃ done fs', fs = done ++ fs' ∧ Inv fs' r.st r.q ∧
      partialData fs st.payloadHead ++ delivered r.results = dataOf done ++ partialData fs' r.st.payloadHead ∧
      ((∀ f ∈ done, f.ctlUnmasked) → r.sent = owedAll done) ∧
      CallsOk lens r.results ∧
      (st.readbuffer ++ flat q = encs fs →
        r.st.readbuffer ++ flat r.q = encs fs' ∧
        ((∀ n ∈ lens, 1 ≤ n) → fs' = [] ∨ mu fs' r.st r.q + lens.length ≤ mu fs st q)) := by
  induction lens generalizing fs st q with
  | nil =>
    exact ⟨[], fs, rfl, hI, List.append_nil _, fun _ => rfl, trivial, fun hc => ⟨hc, fun _ => Or.inr (Nat.le_refl _)⟩⟩
  | cons n ns ih =>
    obtain ⟨cons, fs1, hstep⟩ := recv_step fs st q n hI
    obtain ⟨done2, fs2, hsplit2, hI2, hdata2, hsent2, hall2, hcomp2⟩ := ih fs1 _ _ hstep.inv
    refine ⟨cons ++ done2, fs2, by rw [hstep.split, hsplit2, List.append_assoc], hI2, ?_, ?_, ?_, ?_⟩
    · show partialData fs st.payloadHead ++ (bytesOf (recvImpl st q n).2.2.1 ++ delivered _) = _
      rw [← List.append_assoc, hstep.data, List.append_assoc, hdata2, dataOf_append, List.append_assoc]
      rfl
    · intro hc
      show (recvImpl st q n).2.2.2 ++ _ = _
      rw [hstep.sent (fun f hf => hc f (by simp [hf])), hsent2 (fun f hf => hc f (by simp [hf])), owedAll_append]
    · exact ⟨⟨hstep.bound, hstep.nonempty⟩, hall2⟩
    · intro hc
      obtain ⟨hc1, hprog⟩ := hstep.complete hc
      obtain ⟨hc2, hprog2⟩ := hcomp2 hc1
      refine ⟨hc2, ?_⟩
      intro hpos
      rcases hprog2 (fun m hm => hpos m (by simp [hm])) with h | h
      · exact Or.inl h
      · cases fs2 with
        | nil => exact Or.inl rfl
        | cons g gs =>
          -- something is left, so something was expected and this call made progress
          have hfs : fs ≠ [] := by rw [hstep.split, hsplit2]; simp
          exact Or.inr (Nat.succ_le_of_lt (Nat.lt_of_le_of_lt h (hprog (hpos n List.mem_cons_self) hfs)))

end Paho.Ws
