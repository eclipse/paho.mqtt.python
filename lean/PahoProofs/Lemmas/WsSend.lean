/-
Send side of the WebSocket framing layer: the RFC 6455 reference parser `parseFrame` and its round trip with
`Frame.enc`, `createFrame` as the encoding of a frame, the run of a sequence of `_send_impl` calls and the byte-counting
reference it is compared with.
-/
import PahoProofs.Lemmas.WsRecvDefs
namespace Paho.Ws
open Paho

/-! ### reference parser (RFC 6455 section 5.2), written with `/` and `%` on the header bytes -/

/-- what a receiver reads out of one frame: the header fields and the unmasked payload -/
structure PFrame where
  fin : Bool
  rsv : Nat
  opcode : Nat
  masked : Bool
  key : Bytes          -- masking key ([] when not masked)
  payload : Bytes      -- application data, unmasked
  deriving DecidableEq, Repr

def parseLen (len7 : Nat) (rest : Bytes) : Option (Nat × Bytes) :=
  if len7 = 126 then (if 2 ≤ rest.length then some (beNat (rest.take 2), rest.drop 2) else none)
  else if len7 = 127 then (if 8 ≤ rest.length then some (beNat (rest.take 8), rest.drop 8) else none)
  else some (len7, rest)

def parseKey (masked : Bool) (rest : Bytes) : Option (Bytes × Bytes) :=
  if masked then (if 4 ≤ rest.length then some (rest.take 4, rest.drop 4) else none) else some ([], rest)

/-- one complete frame from the front of a byte string, and what follows it -/
def parseFrame : Bytes → Option (PFrame × Bytes)
  | b0 :: b1 :: rest =>
    let masked := decide (128 ≤ b1.toNat)
    match parseLen (b1.toNat % 128) rest with
    | none => none
    | some (n, rest) =>
      match parseKey masked rest with
      | none => none
      | some (key, rest) =>
        if rest.length < n then none
        else
          let raw := rest.take n
          some ({ fin := decide (128 ≤ b0.toNat), rsv := b0.toNat / 16 % 8, opcode := b0.toNat % 16, masked := masked,
                  key := key, payload := if masked then xorRange key 0 n raw else raw }, rest.drop n)
  | _ => none

/-! ### the parser inverts `Frame.enc` -/

/-- an extended length of `w` bytes in front of `X` -/
theorem parseExt {w n : Nat} (h : n < 256 ^ w) (X : Bytes) :
    (if w ≤ (beBytes w n ++ X).length then some (beNat ((beBytes w n ++ X).take w), (beBytes w n ++ X).drop w) else none) =
      some (n, X) := by
  have hl := beBytes_length w n
  rw [if_pos (by rw [List.length_append, hl]; exact Nat.le_add_right _ _), List.take_left' hl, List.drop_left' hl,
    beNat_beBytes_of_lt h]

theorem parseLen_enc {f : Frame} (hwf : f.wf) (X : Bytes) : parseLen f.len7 (f.ext ++ X) = some (f.payload.length, X) := by
  unfold parseLen
  rcases Frame.len_forms hwf with ⟨hl, he, hlt⟩ | ⟨hl, he, hlt⟩ | ⟨hl, he, hlt⟩ <;> rw [hl, he]
  · rw [if_neg (Nat.ne_of_lt hlt), if_neg (Nat.ne_of_lt (Nat.lt_succ_of_lt hlt))]; rfl
  · rw [if_pos rfl]; exact parseExt hlt X
  · rw [if_neg (by decide), if_pos rfl]; exact parseExt hlt X

theorem parseKey_enc {f : Frame} (hwf : f.wf) (X : Bytes) :
    parseKey f.mask.isSome (f.keyBytes ++ X) = some (f.keyBytes, X) := by
  unfold parseKey Frame.keyBytes
  cases hm : f.mask with
  | none => rfl
  | some k =>
    have hk : k.length = 4 := hwf.1 k hm
    rw [Option.isSome_some, if_pos rfl, if_pos (by rw [List.length_append, hk]; exact Nat.le_add_right _ _)]
    simp only [List.take_left' hk, List.drop_left' hk]

theorem parseFrame_enc {f : Frame} (hwf : f.wf) (tail : Bytes) :
    parseFrame (f.enc ++ tail) =
      some ({ fin := decide (128 ≤ f.b0.toNat), rsv := f.b0.toNat / 16 % 8, opcode := f.opcode, masked := f.mask.isSome,
              key := f.keyBytes, payload := f.payload }, tail) := by
  have hbl : f.body.length = f.payload.length := f.body_length
  have hbody : (if f.mask.isSome = true then xorRange f.keyBytes 0 f.payload.length f.body else f.body) = f.payload := by
    unfold Frame.body Frame.keyBytes
    cases f.mask with
    | none => rfl
    | some k => exact xorRange_xorRange k 0 _ _
  simp only [Frame.enc, List.cons_append, List.append_assoc, parseFrame, Frame.b1_lengthbits hwf, Frame.b1_maskbit hwf, parseLen_enc hwf, parseKey_enc hwf]
  rw [if_neg (by rw [List.length_append, hbl]; omega), List.take_left' hbl, List.drop_left' hbl, hbody]
  rfl

/-- the length form `_create_frame` chooses -/
def lenFormOf (n : Nat) : Nat := if n < 126 then 0 else if n < 65536 then 1 else 2

/-- what `_create_frame` builds is the encoding of a frame: FIN set, RSV clear, the shortest length form -/
theorem createFrame_eq_enc (opcode : Nat) (data key : Bytes) (m : Nat) (hm : m = 0 ∨ m = 1) :
    createFrame opcode data key m =
      Frame.enc ⟨b8 (128 ||| opcode), lenFormOf data.length, if m = 1 then some key else none, data⟩ := by
  have hb1 : ∀ l, l < 128 →
      b8 ((m <<< 7) ||| l) = b8 ((if (if m = 1 then some key else none).isSome then 128 else 0) + l) := by
    -- the mask bit is put on with `|||`; over a 7-bit field that is addition
    intro l hl
    rcases hm with rfl | rfl
    · rw [Nat.zero_shiftLeft, Nat.zero_or]; exact congrArg b8 (Nat.zero_add l).symm
    · exact congrArg b8 (or128_eq hl)
  unfold createFrame Frame.enc Frame.b1 Frame.len7 Frame.ext Frame.keyBytes Frame.body lenFormOf
  by_cases c1 : data.length < 126
  · simp only [c1, if_true, hb1 _ (Nat.lt_trans c1 (by decide))]
    rcases hm with rfl | rfl <;> rfl
  · by_cases c2 : data.length < 65536
    · simp only [c1, c2, if_true, if_false, hb1 126 (by decide), List.cons_append, List.nil_append]
      rcases hm with rfl | rfl <;> rfl
    · simp only [c1, c2, if_false, hb1 127 (by decide), List.cons_append, List.nil_append]
      rcases hm with rfl | rfl <;> rfl

theorem lenFormOf_fits {n : Nat} (h : n < 2 ^ 64) :
    (lenFormOf n = 0 ∧ n < 126) ∨ (lenFormOf n = 1 ∧ n < 65536) ∨ (lenFormOf n = 2 ∧ n < 2 ^ 64) := by
  unfold lenFormOf
  split
  · exact Or.inl ⟨rfl, ‹_›⟩
  · split
    · exact Or.inr (Or.inl ⟨rfl, ‹_›⟩)
    · exact Or.inr (Or.inr ⟨rfl, h⟩)

theorem createFrame_masked_length (opcode : Nat) (data key : Bytes) (hk : key.length = 4) :
    (createFrame opcode data key 1).length =
      (if data.length < 126 then 2 else if data.length < 65536 then 4 else 10) + 4 + data.length := by
  rw [createFrame_eq_enc _ _ _ 1 (Or.inr rfl), Frame.enc_length, Frame.hdrLen, Frame.ext_length]
  show 2 + _ + key.length + data.length = _
  rw [hk]
  unfold lenFormOf
  by_cases c1 : data.length < 126
  · rw [if_pos c1, if_pos c1]; rfl
  · by_cases c2 : data.length < 65536
    · rw [if_neg c1, if_pos c2, if_neg c1, if_pos c2]; rfl
    · rw [if_neg c1, if_neg c2, if_neg c1, if_neg c2]; rfl

theorem createFrame_ne_nil (op : Nat) (d k : Bytes) : createFrame op d k 1 ≠ [] := by
  rw [createFrame_eq_enc _ _ _ 1 (Or.inr rfl)]; exact List.cons_ne_nil _ _

/-! ### running `_send_impl` -/

/-- one `_send_impl(data)` call with what `os.urandom(4)` and the raw `socket.send` do in it -/
structure Call where
  data : Bytes
  key : Bytes
  out : SockSend
  deriving DecidableEq, Repr

structure SendRun where
  st : SendSt
  wire : Bytes            -- everything the raw socket accepted, in order
  rets : List SendRes     -- how each call ended
  deriving DecidableEq, Repr

def runSend : SendSt → List Call → SendRun
  | st, [] => { st := st, wire := [], rets := [] }
  | st, c :: cs =>
    let r := sendImpl st c.data c.key c.out
    let rest := runSend r.1 cs
    { st := rest.st, wire := r.2.1 ++ rest.wire, rets := r.2.2 :: rest.rets }

/-- the caller has to come again with the same data: the call returned 0 or raised -/
def SendRes.needsRetry : SendRes → Bool
  | .ret 0 => true
  | .ret _ => false
  | .raised _ => true

/-- the retry discipline of `_packet_write` (`appendleft` + return on 0 and on an exception): after a call that
returned 0 or raised, the next call passes the same data -/
def Disciplined : SendSt → List Call → Prop
  | _, [] => True
  | _, [_] => True
  | st, c :: c' :: cs =>
    let r := sendImpl st c.data c.key c.out
    (r.2.2.needsRetry = true → c'.data = c.data) ∧ Disciplined r.1 (c' :: cs)

instance decDisciplined : ∀ (st : SendSt) (cs : List Call), Decidable (Disciplined st cs)
  | _, [] => isTrue trivial
  | _, [_] => isTrue trivial
  | st, c :: c' :: cs =>
    have : Decidable (Disciplined (sendImpl st c.data c.key c.out).1 (c' :: cs)) := decDisciplined _ _
    by unfold Disciplined; exact inferInstance

/-- bytes the raw socket takes out of `len` buffered ones: none when it raises -/
def taken (out : SockSend) (len : Nat) : Nat :=
  match out with
  | .accept k => min k len
  | .wouldBlock => 0
  | .error => 0

/-- how the call ends when `remAfter` bytes of the frame are still unsent and the frame carries `size` data bytes -/
def outcome (out : SockSend) (remAfter size : Nat) : SendRes :=
  match out with
  | .accept _ => .ret (if remAfter = 0 then size else 0)
  | .wouldBlock => .raised true
  | .error => .raised false

theorem taken_le (out : SockSend) (len : Nat) : taken out len ≤ len := by
  cases out <;> simp [taken]; exact Nat.min_le_right _ _

/-- the frame the raw send of this call works on: the pending one, or the one the call creates -/
def inflight (st : SendSt) (data key : Bytes) : Bytes :=
  if st.sendbuffer.length = 0 then createFrame 2 data key 1 else st.sendbuffer

theorem inflight_eq_append (st : SendSt) (data key : Bytes) :
    st.sendbuffer ++ (if st.sendbuffer.length = 0 then [createFrame 2 data key 1] else []).flatten = inflight st data key := by
  unfold inflight
  split
  · rename_i h; rw [List.eq_nil_of_length_eq_zero h]; exact List.append_nil _
  · exact List.append_nil _

theorem inflight_length (st : SendSt) (data key : Bytes) :
    (if st.sendbuffer.length = 0 then (createFrame 2 data key 1).length else st.sendbuffer.length) =
      (inflight st data key).length := by
  unfold inflight; split <;> rfl

/-- `sendImpl` in uniform shape: `B` = the frame in flight, `R` = the size remembered for it -/
theorem sendImpl_eq (st : SendSt) (data key : Bytes) (out : SockSend) :
    sendImpl st data key out =
      let B := inflight st data key
      let R := if st.sendbuffer.length = 0 then data.length else st.requestedSize
      ({ sendbuffer := B.drop (taken out B.length), requestedSize := R }, B.take (taken out B.length),
        outcome out (B.drop (taken out B.length)).length R) := by
  unfold sendImpl inflight
  by_cases he : st.sendbuffer.length = 0
  · rw [if_pos he, if_pos he, if_pos he, List.eq_nil_of_length_eq_zero he, List.nil_append]
    cases out <;> rfl
  · rw [if_neg he, if_neg he, if_neg he]
    cases out <;> rfl

theorem outcome_needsRetry {out : SockSend} {m R : Nat} (hm : m ≠ 0) : (outcome out m R).needsRetry = true := by
  cases out
  · simp only [outcome, if_neg hm]; rfl
  · rfl
  · rfl

/-- the byte-counting reference. `rem` = bytes of the current frame the socket has not taken yet. A call starts the
frame `createFrame 2 data key 1` iff `rem = 0` — also when the raw send then raises. -/
structure RefRun where
  frames : List Bytes   -- the frames of the sends started, in order
  total : Nat           -- bytes accepted by the socket
  rets : List SendRes
  rem : Nat             -- bytes of the last frame still to go
  deriving DecidableEq, Repr

def refRun : Nat → List Call → RefRun
  | rem, [] => { frames := [], total := 0, rets := [], rem := rem }
  | rem, c :: cs =>
    let fr := createFrame 2 c.data c.key 1
    let rem1 := if rem = 0 then fr.length else rem
    let k := taken c.out rem1
    let rest := refRun (rem1 - k) cs
    { frames := (if rem = 0 then [fr] else []) ++ rest.frames,
      total := k + rest.total,
      rets := outcome c.out (rem1 - k) c.data.length :: rest.rets,
      rem := rest.rem }

/-- the bytes of one more call in front of a run: `k` of the buffer `B` now, `t` of what is then left and framed later -/
theorem take_drop_step {B F : Bytes} {k : Nat} (hk : k ≤ B.length) (t : Nat) :
    B.take k ++ (B.drop k ++ F).take t = (B ++ F).take (k + t) ∧ (B.drop k ++ F).drop t = (B ++ F).drop (k + t) := by
  rw [List.take_add, List.take_append_of_le_length hk, List.drop_append_of_le_length hk, ← List.drop_drop,
    List.drop_append_of_le_length hk]
  exact ⟨rfl, rfl⟩

/-- The run against the reference, from any state. `_send_impl` returns the size remembered when the frame was created,
the reference the `len(data)` of the call that completes it; `hJ` is what makes the two agree. It holds trivially with
nothing pending, and `Disciplined` carries it from call to call. -/
theorem runSend_ref (cs : List Call) (st : SendSt)
    (hJ : st.sendbuffer ≠ [] → ∀ c ∈ cs.head?, c.data.length = st.requestedSize) (hD : Disciplined st cs) :
    (runSend st cs).wire =
      (st.sendbuffer ++ (refRun st.sendbuffer.length cs).frames.flatten).take (refRun st.sendbuffer.length cs).total ∧
    (runSend st cs).st.sendbuffer =
      (st.sendbuffer ++ (refRun st.sendbuffer.length cs).frames.flatten).drop (refRun st.sendbuffer.length cs).total ∧
    (runSend st cs).rets = (refRun st.sendbuffer.length cs).rets := by
  induction cs generalizing st with
  | nil => exact ⟨rfl, (List.append_nil _).symm, rfl⟩
  | cons c cs ih =>
    have hR : (if st.sendbuffer.length = 0 then c.data.length else st.requestedSize) = c.data.length := by
      split
      · rfl
      · rename_i h; exact (hJ (fun h0 => h (h0 ▸ rfl)) c rfl).symm
    have hS := sendImpl_eq st c.data c.key c.out
    simp only [hR] at hS
    -- the rest of the run starts from what this call leaves of the frame, under the same discipline
    have ih' := ih (sendImpl st c.data c.key c.out).1
      (by
        intro hne c' hc'
        cases cs with
        | nil => cases hc'
        | cons c2 cs2 =>
          cases hc'
          have hd := hD.1
          rw [hS] at hd hne ⊢
          rw [hd (outcome_needsRetry fun h0 => hne (List.eq_nil_of_length_eq_zero h0))])
      (by
        cases cs with
        | nil => trivial
        | cons c2 cs2 => exact hD.2)
    simp only [runSend, refRun, inflight_length, List.flatten_append]
    rw [← List.append_assoc, inflight_eq_append]
    rw [hS] at ih' ⊢
    -- `B`: the frame in flight, of which the socket takes `k` bytes
    generalize inflight st c.data c.key = B at *
    have hk := taken_le c.out B.length
    generalize taken c.out B.length = k at *
    simp only [List.length_drop] at ih' ⊢
    obtain ⟨i1, i2, i3⟩ := ih'
    have hstep := take_drop_step (F := (refRun (B.length - k) cs).frames.flatten) hk (refRun (B.length - k) cs).total
    rw [i1, i2, i3]
    exact ⟨hstep.1, hstep.2, rfl⟩

theorem refRun_total (cs : List Call) (rem : Nat) :
    (refRun rem cs).total + (refRun rem cs).rem = rem + (refRun rem cs).frames.flatten.length := by
  induction cs generalizing rem with
  | nil => exact Nat.zero_add _
  | cons c cs ih =>
    simp only [refRun, List.flatten_append, List.length_append]
    have h1 : rem + (if rem = 0 then [createFrame 2 c.data c.key 1] else []).flatten.length =
        (if rem = 0 then (createFrame 2 c.data c.key 1).length else rem) := by
      split
      · rename_i h; rw [h, Nat.zero_add, List.flatten_singleton]
      · rfl
    generalize (if rem = 0 then (createFrame 2 c.data c.key 1).length else rem) = rem1 at h1 ⊢
    rw [Nat.add_assoc, ih, ← Nat.add_assoc, Nat.add_sub_cancel' (taken_le c.out rem1), ← h1, Nat.add_assoc]

theorem refRun_rem_le (cs : List Call) (rem : Nat) :
    (refRun rem cs).rem ≤ (match (refRun rem cs).frames.getLast? with | some f => f.length | none => rem) := by
  induction cs generalizing rem with
  | nil => exact Nat.le_refl _
  | cons c cs ih =>
    simp only [refRun, List.getLast?_append]
    generalize hrem1 : (if rem = 0 then (createFrame 2 c.data c.key 1).length else rem) = rem1
    have := ih (rem1 - taken c.out rem1)
    generalize refRun (rem1 - taken c.out rem1) cs = R at this
    cases hR : R.frames.getLast? with
    | some g => rw [hR] at this; exact this
    | none =>
      rw [hR] at this
      -- no later frame: what is left belongs to the frame in flight, `rem1` bytes of which were pending
      rw [Option.none_or]
      refine Nat.le_trans (Nat.le_trans this (Nat.sub_le _ _)) (Nat.le_of_eq ?_)
      rw [← hrem1]
      split <;> rfl

end Paho.Ws
