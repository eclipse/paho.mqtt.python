/-
Lemmas for the packet-level model of `_packet_queue` / `_packet_write` over a raw socket (Paho.Model.TcpWriter).
-/
import Paho.Model.TcpWriter

namespace Paho.TcpW
open Paho Paho.Ws

/-- accepted bytes of the packet in flight -/
def headSent : List Pkt → Bytes
  | [] => []
  | p :: _ => p.bytes.take p.pos

/-- the raw socket reports partial writes, so the `pos` of the head packet does advance (over the WebSocket wrapper it
never does); only the head can be partly sent -/
structure Inv (s : St) : Prop where
  fifo : s.done ++ s.queue.map (·.bytes) = s.enq
  left : ∀ p ∈ s.queue, p.pos < p.bytes.length ∧ p.toProcess = (p.bytes.length : Int) - (p.pos : Int)
  fresh : ∀ p ∈ s.queue.tail, p.pos = 0
  wire : s.wire = s.done.flatten ++ headSent s.queue

theorem inv_init : Inv {} := ⟨rfl, nofun, nofun, rfl⟩

theorem inv_enqueue {s : St} (h : Inv s) (p : Bytes) (hp : p ≠ []) : Inv (enqueue s p) := by
  obtain ⟨fifo, left, fresh, wire⟩ := h
  refine ⟨?_, List.forall_mem_append.2 ⟨left, List.forall_mem_singleton.2 ⟨List.length_pos_iff.2 hp, (Int.sub_zero _).symm⟩⟩,
    fun q hq => ?_, ?_⟩
  · simp only [enqueue, List.map_append, List.map_cons, List.map_nil, ← List.append_assoc, fifo]
  · unfold enqueue at hq
    cases hs : s.queue with
    | nil => rw [hs] at hq; cases hq
    | cons a rest =>
      rw [hs] at hq
      rcases List.mem_append.1 hq with hq | hq
      · exact fresh q (hs ▸ hq)
      · exact List.mem_singleton.1 hq ▸ rfl
  · -- the head of the queue stays the head, unless the new packet becomes it with nothing sent yet
    show s.wire = s.done.flatten ++ headSent (s.queue ++ [_])
    rw [wire]
    cases s.queue <;> rfl

@[simp] theorem headSent_cons (p : Pkt) (rest : List Pkt) : headSent (p :: rest) = p.bytes.take p.pos := rfl

/-- `to_process` and `pos` move together -/
theorem toProcess_sub {len pos n : Nat} {tp : Int} (htp : tp = (len : Int) - (pos : Int)) :
    tp - (n : Int) = (len : Int) - ((pos + n : Nat) : Int) := by
  rw [htp, Int.natCast_add, Int.sub_sub]

/-- `to_process` reaches 0 exactly when all that was left has been taken -/
theorem toProcess_zero_iff {len pos n : Nat} {tp : Int} (htp : tp = (len : Int) - (pos : Int)) (hpos : pos < len) :
    tp - (n : Int) = 0 ↔ n = len - pos := by
  rw [htp, ← Int.ofNat_sub (Nat.le_of_lt hpos), Int.sub_eq_zero, Int.ofNat_inj]
  exact eq_comm

theorem headSent_eq_nil {l : List Pkt} (h : ∀ p ∈ l, p.pos = 0) : headSent l = [] := by
  cases l with
  | nil => rfl
  | cons p l => rw [headSent_cons, h p List.mem_cons_self]; rfl

theorem inv_iter {s : St} (h : Inv s) (out : SockSend) :
    Inv (iter s out).1 ∧
      ((iter s out).2 = none →
        ((iter s out).1.queue.length + 1 = s.queue.length ∨ (iter s out).1.queue.length = s.queue.length) ∧
        (out = .accept (headRemaining s) → (iter s out).1.queue.length + 1 = s.queue.length)) ∧
      (iter s out).2 ≠ some .stuck := by
  obtain ⟨queue, wire, enq, done⟩ := s
  obtain ⟨fifo, left, fresh, hwire⟩ := h
  dsimp only at fifo left fresh hwire
  cases queue with
  | nil => exact ⟨⟨fifo, left, fresh, hwire⟩, nofun, nofun⟩
  | cons p rest =>
    obtain ⟨hpos, htp⟩ := left p List.mem_cons_self
    have hleft : ∀ x ∈ rest, _ := fun x hx => left x (List.mem_cons_of_mem _ hx)
    have hfresh : ∀ x ∈ rest, x.pos = 0 := fresh
    cases out with
    | wouldBlock => exact ⟨⟨fifo, left, fresh, hwire⟩, nofun, nofun⟩
    | error => exact ⟨⟨fifo, left, fresh, hwire⟩, nofun, nofun⟩
    | accept k =>
      unfold iter headRemaining
      dsimp only
      have hdl : (p.bytes.drop p.pos).length = p.bytes.length - p.pos := List.length_drop
      have hle : min k (p.bytes.drop p.pos).length ≤ (p.bytes.drop p.pos).length := Nat.min_le_right _ _
      have hall : k = p.bytes.length - p.pos → min k (p.bytes.drop p.pos).length = p.bytes.length - p.pos := by
        rw [hdl]
        exact fun hk => hk ▸ Nat.min_self _
      generalize min k (p.bytes.drop p.pos).length = n at hle hall ⊢
      rw [hdl] at hle
      by_cases hn : n > 0
      · rw [if_pos hn]
        by_cases hz : p.toProcess - (n : Int) = 0
        · -- the packet is complete: popped for good
          rw [if_pos hz]
          have hfull : n = p.bytes.length - p.pos := (toProcess_zero_iff htp hpos).1 hz
          refine ⟨⟨?_, hleft, fun x hx => hfresh x (List.mem_of_mem_tail hx), ?_⟩,
            fun _ => ⟨Or.inl rfl, fun _ => rfl⟩, nofun⟩
          · show (done ++ [p.bytes]) ++ rest.map (·.bytes) = enq
            rw [← fifo, List.map_cons, List.append_assoc]; rfl
          · show wire ++ (p.bytes.drop p.pos).take n = (done ++ [p.bytes]).flatten ++ headSent rest
            rw [hwire, headSent_cons, headSent_eq_nil hfresh, hfull, ← hdl, List.take_length,
              List.flatten_append, List.flatten_singleton, List.append_nil, List.append_assoc, List.take_append_drop]
        · -- part of the packet accepted: go round again with the position advanced
          rw [if_neg hz]
          have hne : n ≠ p.bytes.length - p.pos := fun h => hz ((toProcess_zero_iff htp hpos).2 h)
          refine ⟨⟨fifo, List.forall_mem_cons.2 ⟨⟨Nat.add_lt_of_lt_sub' (Nat.lt_of_le_of_ne hle hne), toProcess_sub htp⟩, hleft⟩,
              hfresh, ?_⟩,
            fun _ => ⟨Or.inr rfl, fun hk => ?_⟩, nofun⟩
          · show wire ++ (p.bytes.drop p.pos).take n = done.flatten ++ p.bytes.take (p.pos + n)
            rw [hwire, headSent_cons, List.append_assoc, List.take_add]
          · -- the socket took everything that was left, so the packet would have been complete
            cases hk
            exact absurd (hall rfl) hne
      · rw [if_neg hn]
        refine ⟨⟨fifo, left, fresh, ?_⟩, nofun, nofun⟩
        show wire ++ (p.bytes.drop p.pos).take n = done.flatten ++ headSent (p :: rest)
        rw [Nat.eq_zero_of_not_pos hn, List.take_zero, List.append_nil, hwire]

theorem inv_packetWrite (fuel : Nat) (s : St) (outs : List SockSend) (h : Inv s) :
    Inv (packetWrite fuel s outs).1 ∧ (outs.length + s.queue.length < fuel → (packetWrite fuel s outs).2 ≠ .stuck) := by
  induction fuel generalizing s outs with
  | zero => exact ⟨h, fun hf => absurd hf (Nat.not_lt_zero _)⟩
  | succ fuel ih =>
    have hi := inv_iter h (outs.headD (.accept (headRemaining s)))
    unfold packetWrite
    cases hr : iter s (outs.headD (.accept (headRemaining s))) with
    | mk s' r =>
      rw [hr] at hi
      cases r with
      | some r => exact ⟨hi.1, fun _ hst => hi.2.2 (congrArg some hst)⟩
      | none =>
        obtain ⟨hlen, hfull⟩ := hi.2.1 rfl
        have := ih s' outs.tail hi.1
        refine ⟨this.1, fun hf => this.2 ?_⟩
        -- an iteration that does not return uses up a script item or, script used up, completes a packet
        cases outs with
        | nil =>
          have hl : s'.queue.length + 1 = s.queue.length := hfull rfl
          simp only [List.length_nil, List.tail_nil] at hf ⊢
          omega
        | cons o os =>
          have hl : s'.queue.length + 1 = s.queue.length ∨ s'.queue.length = s.queue.length := hlen
          simp only [List.length_cons, List.tail_cons] at hf ⊢
          omega

/-- no empty packet is queued (an MQTT packet has at least two bytes) -/
def OpsOk (ops : List Op) : Prop := ∀ op ∈ ops, ∀ p, op = Op.enq p → p ≠ []

theorem inv_run {s : St} (h : Inv s) {ops : List Op} (hops : OpsOk ops) : Inv (run s ops) :=
  List.foldlRecOn ops _ h fun s h op hop => by
    cases op with
    | enq p => exact inv_enqueue h p (hops _ hop p rfl)
    | write outs => exact (inv_packetWrite _ s outs h).1

end Paho.TcpW
