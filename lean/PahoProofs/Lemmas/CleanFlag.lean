/-
Which operations can change the three components the CONNECT clean flag depends on (`cfg`, `proto`, `firstConnect`);
for Properties/C04.lean. From `handleConnack_five` on the session is MQTT 5 (`proto` is then never assigned; the
fallback from 3.1.1 to 3.1 in `_handle_connack` does assign it), and only `firstConnect` moves.
-/
import Paho.Model.Session
import PahoProofs.Lemmas.SessionDefs
import PahoProofs.Lemmas.SessionFrame

namespace Paho.CleanFlag
open Paho Paho.S

/-- the part of the state `connectCleanFlag` reads -/
structure Key where
  cfg : Cfg
  proto : Nat
  fc : Bool

def key (s : S) : Key := ⟨s.cfg, s.proto, s.firstConnect⟩

@[simp] theorem key_mk (cfg proto hostSet cstate sock nconn lastMid out inm inflight outq regWrite firstConnect inCb
    pingT lastIn lastOut now reconnectDelay sendScript infos raiseOnMessage ackd discCalled log) :
    key ⟨cfg, proto, hostSet, cstate, sock, nconn, lastMid, out, inm, inflight, outq, regWrite, firstConnect, inCb,
      pingT, lastIn, lastOut, now, reconnectDelay, sendScript, infos, raiseOnMessage, ackd, discCalled, log⟩
      = ⟨cfg, proto, firstConnect⟩ := rfl

@[simp] theorem key_eta (s : S) : (⟨s.cfg, s.proto, s.firstConnect⟩ : Key) = key s := rfl

theorem flag_of_key {s s' : S} (h : key s = key s') : s.connectCleanFlag = s'.connectCleanFlag := by
  simp only [key, Key.mk.injEq] at h
  simp [connectCleanFlag, h.1, h.2.1, h.2.2]

@[simp] theorem key_emit (s : S) (e : Ev) : key (s.emit e) = key s := rfl
@[simp] theorem key_setInfo (s : S) (i : Nat) (f : Info → Info) : key (s.setInfo i f) = key s := rfl
@[simp] theorem key_doOnDisconnect (s : S) (rc : RC) (b : Bool) : key (s.doOnDisconnect rc b) = key s := rfl
@[simp] theorem key_messagesReconnectResetOut (s : S) : key s.messagesReconnectResetOut = key s := rfl

theorem frame : SessFrame.Frame (fun s s' => key s' = key s) (fun _ => True) where
  refl _ := rfl
  trans h1 h2 := h2.trans h1
  emit _ _ _ := rfl
  upd h := by simp only [key, h.cfg, h.proto, h.firstConnect]

/-! The handlers above the routines of `SessFrame` assign `out`, `inflight`, `lastMid`, `infos`, `nconn`, ... but,
`handleConnack` and `connect` apart, none of the three components: `key` passes a record update or an `emit` by `rfl`,
and a handler only has to be followed through its calls. `s₀` is the state it was entered with. -/

variable {s₀ s : S}

theorem lowOk (e : Ev) (_ : SessFrame.lowEv e = true) : True := trivial

theorem keep_upd {s' : S} (h : key s = key s₀) (h1 : s'.cfg = s.cfg) (h2 : s'.proto = s.proto)
    (h3 : s'.firstConnect = s.firstConnect) : key s' = key s₀ := by
  rw [← h, key, key, h1, h2, h3]

/-! `SessFrame.ite_state`, `ite_fst` at the relation of `frame`, in the form the goals have (`key _ = key s₀`; the
general lemmas would need the relation given by hand at every use). -/

theorem keep_ite {c : Prop} [Decidable c] {a b : S} (ha : key a = key s₀) (hb : key b = key s₀) :
    key (if c then a else b) = key s₀ := by
  split <;> assumption

theorem keep_ite_fst {α : Type} {c : Prop} [Decidable c] {p q : S × α} (hp : key p.1 = key s₀) (hq : key q.1 = key s₀) :
    key (if c then p else q).1 = key s₀ := by
  split <;> assumption

/-- the state component of a pair that `split` has named -/
theorem keep_of_fst {α : Type} {p : S × α} {s' : S} {r : α} (hp : key p.1 = key s₀) (heq : p = (s', r)) :
    key s' = key s₀ := by
  rw [← hp, heq]

theorem keep_sendPublish (mid : Nat) (t p : Bytes) (q : Nat) (r d : Bool) (i : Option Nat) (dir : Bool) (u : Option Nat)
    (h : key s = key s₀) : key (s.sendPublish mid t p q r d i dir u).1 = key s₀ :=
  frame.sendPublish lowOk mid t p q r d i dir u (fun _ _ _ => trivial) h

theorem keep_loopWrite (h : key s = key s₀) : key s.loopWrite.1 = key s₀ := frame.loopWrite lowOk h

theorem keep_packetQueue (p : OutPkt) (d : Bool) (h : key s = key s₀) : key (s.packetQueue p d).1 = key s₀ :=
  frame.packetQueue lowOk p d h

theorem keep_sendPubrel (mid : Nat) (d : Bool) (h : key s = key s₀) : key (s.sendPubrel mid d).1 = key s₀ :=
  frame.sendPubrel lowOk (fun _ _ _ => trivial) mid d h

theorem keep_loopRcHandle (rc : RC) (h : key s = key s₀) : key (s.loopRcHandle rc).1 = key s₀ :=
  frame.loopRcHandle lowOk rc h

@[simp] theorem key_connectAsync (s : S) : key s.connectAsync = key s :=
  frame.connectAsync lowOk (frame.refl s)


theorem keep_reconnect (ok : Bool) (h : key s = key s₀) : key (s.reconnect ok).1 = key s₀ := by
  unfold reconnect
  refine keep_ite_fst h ?_
  extract_lets s1 s2 s3 s4 s5 s6 c s7 s8 s9
  have h1 : key s1 = key s₀ := keep_upd h rfl rfl rfl
  have h3 : key s3 = key s₀ := frame.failQueuedQos0 lowOk _ (frame.sockClose lowOk _ h1)
  clear_value s3
  have h4 : key s4 = key s₀ := keep_upd h3 rfl rfl rfl
  have h5 : key s5 = key s₀ := frame.messagesReconnectResetIn (s := s4.messagesReconnectResetOut) h4
  clear_value s5
  have h6 : key s6 = key s₀ := frame.thenEmit h5 trivial
  refine keep_ite_fst h6 ?_
  have h8 : key s8 = key s₀ := frame.thenEmit (keep_upd (s' := s7) h6 rfl rfl rfl) trivial
  clear_value s8
  have h9 : key s9 = key s₀ := keep_ite (keep_ite (frame.thenEmit h8 trivial) (frame.thenEmit h8 trivial)) h8
  have hc := frame.sendConnect lowOk h9
  split
  have hc := keep_of_fst hc ‹_›
  exact hc

theorem keep_updateInflight (fuel : Nat) : ∀ {s : S} (idx : Nat), key s = key s₀ → key (s.updateInflight fuel idx).1 = key s₀ := by
  induction fuel with
  | zero => intro s idx h; exact h
  | succ n ih =>
    intro s idx h
    unfold updateInflight
    split
    · exact h
    · rename_i m _
      refine keep_ite_fst h (keep_ite_fst (keep_ite_fst ?_ (ih _ h)) h)
      extract_lets m' s1
      have h1 := keep_sendPublish m.mid m.topic m.payload m.qos m.retain m.dup none true (some m.info)
        (keep_upd (s' := s1) h rfl rfl rfl)
      split
      have h1 := keep_of_fst h1 ‹_›
      exact keep_ite_fst h1 (ih _ h1)

theorem keep_doOnPublish (mid : Nat) (h : key s = key s₀) : key (s.doOnPublish mid).1 = key s₀ := by
  unfold doOnPublish
  extract_lets s1
  have h1 : key s1 = key s₀ := frame.thenEmit h trivial
  split
  · exact frame.thenEmit h1 trivial
  · extract_lets s2 s3 s4 s5
    have h2 : key s2 = key s₀ := frame.thenEmit h1 trivial
    have h3 : key s3 = key s₀ := keep_upd h2 rfl rfl rfl
    have h4 : key s4 = key s₀ := frame.thenEmit (frame.setInfo _ _ h3) trivial
    split
    · have h5 : key s5 = key s₀ := keep_upd h4 rfl rfl rfl
      split
      · have h6 := keep_updateInflight (s5.out.length + 1) 0 h5
        split
        have h6 := keep_of_fst h6 ‹_›
        split <;> exact h6
      · exact h5
    · exact h4

theorem keep_handlePubackcomp (mid : Nat) (h : key s = key s₀) : key (s.handlePubackcomp mid).1 = key s₀ := by
  unfold handlePubackcomp
  exact keep_ite_fst (keep_doOnPublish mid h) h

theorem keep_handlePubrec (mid : Nat) (h : key s = key s₀) : key (s.handlePubrec mid).1 = key s₀ := by
  unfold handlePubrec
  exact keep_ite_fst (keep_sendPubrel mid true (keep_upd h rfl rfl rfl)) h


theorem keep_connackResend (fuel : Nat) : ∀ {s : S} (idx : Nat) (rc : RC), key s = key s₀ →
    key (s.connackResend fuel idx rc).1 = key s₀ := by
  induction fuel with
  | zero => intro s idx rc h; exact h
  | succ n ih =>
    intro s idx rc h
    unfold connackResend
    split
    · exact h
    · rename_i m _
      refine keep_ite_fst h (keep_ite_fst (keep_loopWrite h) ?_)
      split
      rename_i t rc' stop heq
      -- each retransmission branch is a record update of `inflight`/`out` followed by one `_send_*`
      have ht : key t = key s₀ := by
        rw [← show _ = t from congrArg Prod.fst heq]
        have pub : ∀ s1 : S, key s1 = key s₀ →
            key (match s1.sendPublish m.mid m.topic m.payload m.qos m.retain m.dup none false (some m.info) with
              | (s, r) => (s, r, decide (r ≠ rcSuccess))).1 = key s₀ := by
          intro s1 h1
          have hp := keep_sendPublish m.mid m.topic m.payload m.qos m.retain m.dup none false (some m.info) h1
          split
          have hp := keep_of_fst hp ‹_›
          exact hp
        refine keep_ite_fst (pub _ (keep_upd h rfl rfl rfl)) (keep_ite_fst (pub _ (keep_upd h rfl rfl rfl))
          (keep_ite_fst ?_ h))
        extract_lets s1
        have hp := keep_sendPubrel m.mid false (keep_upd (s' := s1) h rfl rfl rfl)
        split
        have hp := keep_of_fst hp ‹_›
        exact hp
      exact keep_ite_fst ht (ih _ _ (keep_loopWrite ht))

theorem keep_publish (q : Nat) (t p : Bytes) (r : Bool) (h : key s = key s₀) : key (s.publish q t p r) = key s₀ := by
  unfold publish
  split
  · exact frame.thenEmit h trivial
  · exact frame.thenEmit h trivial
  · extract_lets mid s1 infoIdx s2 m m1 s3 sq
    have h2 : key s2 = key s₀ := keep_upd (keep_upd (s' := s1) h rfl rfl rfl) rfl rfl rfl
    have refused : ∀ rc : RC, key ((s2.setInfo infoIdx fun x => { x with rc := rc }).emit (.ret rc (some mid))) = key s₀ :=
      fun _ => frame.thenEmit (frame.setInfo _ _ h2) trivial
    refine keep_ite ?_ (keep_ite (refused _) (keep_ite (refused _) (keep_ite ?_ ?_)))
    · have hp := keep_sendPublish mid t p 0 r false (some infoIdx) true (some infoIdx) h2
      split
      have hp := keep_of_fst hp ‹_›
      exact frame.thenEmit (frame.setInfo _ _ hp) trivial
    · have hp := keep_sendPublish mid t p q r false (some infoIdx) true (some infoIdx)
        (keep_upd (s' := s3) h2 rfl rfl rfl)
      split
      have hp := keep_of_fst hp ‹_›
      extract_lets s5
      exact frame.thenEmit (frame.setInfo _ _ (s := s5) (keep_ite (keep_upd hp rfl rfl rfl) hp)) trivial
    · exact frame.thenEmit (frame.setInfo _ _ (keep_upd (s' := sq) h2 rfl rfl rfl)) trivial

theorem keep_subscribe (t : Bytes) (q : Nat) (h : key s = key s₀) : key (s.subscribe t q) = key s₀ := by
  unfold subscribe
  split
  · exact frame.thenEmit h trivial
  · split
    · exact frame.thenEmit h trivial
    · split
      · exact frame.thenEmit h trivial
      · split
        · exact frame.thenEmit h trivial
        · extract_lets mid s1
          split
          · exact frame.thenEmit (keep_upd (s' := s1) h rfl rfl rfl) trivial
          · have hq := keep_packetQueue (mkPkt 0x82 mid 1 ‹Bytes›) true (keep_upd (s' := s1) h rfl rfl rfl)
            split
            have hq := keep_of_fst hq ‹_›
            exact frame.thenEmit hq trivial

theorem keep_unsubscribe (t : Bytes) (h : key s = key s₀) : key (s.unsubscribe t) = key s₀ := by
  unfold unsubscribe
  split
  · exact frame.thenEmit h trivial
  · split
    · exact frame.thenEmit h trivial
    · extract_lets mid s1
      split
      · exact frame.thenEmit (keep_upd (s' := s1) h rfl rfl rfl) trivial
      · have hq := keep_packetQueue (mkPkt 0xA2 mid 1 ‹Bytes›) true (keep_upd (s' := s1) h rfl rfl rfl)
        split
        have hq := keep_of_fst hq ‹_›
        exact frame.thenEmit hq trivial

theorem keep_disconnect (h : key s = key s₀) : key s.disconnect = key s₀ := by
  unfold disconnect
  split
  · exact frame.thenEmit (keep_upd h rfl rfl rfl) trivial
  · extract_lets s1
    split
    · exact frame.thenEmit (keep_upd (s' := s1) h rfl rfl rfl) trivial
    · have hq := keep_packetQueue (mkPkt 0xE0 0 0 ‹Bytes›) true (keep_upd (s' := s1) h rfl rfl rfl)
      split
      have hq := keep_of_fst hq ‹_›
      exact frame.thenEmit hq trivial

theorem keep_ack (m q : Nat) (h : key s = key s₀) : key (s.ack m q) = key s₀ := by
  have send : ∀ c, key (match s.sendCmdMid c m true with | (s, rc) => s.emit (.ret rc none)) = key s₀ := by
    intro c
    have hc := frame.sendCmdMid lowOk c m true h
    split
    have hc := keep_of_fst hc ‹_›
    exact frame.thenEmit hc trivial
  unfold ack
  split
  · split
    · exact send 0x40
    · split
      · exact send 0x70
      · exact frame.thenEmit h trivial
  · exact frame.thenEmit h trivial

/-- on MQTT 5 either the reason code constructor raises (state untouched), or `firstConnect` is cleared exactly when the
result is 0 -/
theorem handleConnack_five (s : S) (sp : Bool) (rc : Nat) (ok : Bool) (h5 : s.proto = 5) :
    (∃ n, s.handleConnack sp rc ok = (s, .raised n)) ∨
      key (s.handleConnack sp rc ok).1 = ⟨s.cfg, 5, if rc = 0 then false else s.firstConnect⟩ := by
  unfold handleConnack
  have h4 : ¬ (s.proto = 4 ∧ rc = 1) := by omega
  simp only [h4, if_false]
  split
  · rename_i r hr
    left
    revert hr
    split
    · split
      · intro hr; exact ⟨_, by cases hr; rfl⟩
      · intro hr; exact ⟨_, by cases hr; rfl⟩
      · intro hr; cases hr
    · intro hr; cases hr
  · right
    by_cases h0 : rc = 0
    · subst h0
      simp only [if_true]
      have pair : ∀ q : S × RC, key (match q with | (s, rc) => (s, HRes.rc rc)).1 = key q.1 := fun _ => rfl
      refine (pair _).trans ((keep_connackResend _ _ _ rfl).trans ?_)
      simp only [key, emit, h5]
    · simp only [h0, if_false]
      split <;> simp only [key_emit] <;> simp only [key, h5]

theorem handleConnack_five_refused (s : S) (sp : Bool) (rc : Nat) (ok : Bool) (h5 : s.proto = 5) (h0 : rc ≠ 0) :
    key (s.handleConnack sp rc ok).1 = key s := by
  rcases handleConnack_five s sp rc ok h5 with ⟨n, hn⟩ | h
  · rw [hn]
  · rw [h]; simp only [h0, if_false, key, h5]

theorem keep_packetHandle (p : RxPkt) (ok : Bool) (hp : ∀ sp rc, p ≠ .connack sp rc) (h : key s = key s₀) :
    key (s.packetHandle p ok).1 = key s₀ := by
  have pair : ∀ {q : S × RC}, key q.1 = key s₀ → key (match q with | (s, rc) => (s, HRes.rc rc)).1 = key s₀ :=
    fun hq => hq
  cases p <;> unfold packetHandle <;> dsimp only
  case connack sp rc => exact absurd rfl (hp sp rc)
  case pingreq => exact pair (frame.sendSimple lowOk _ h)
  case pingresp => exact keep_upd h rfl rfl rfl
  case puback mid => exact pair (keep_handlePubackcomp mid h)
  case pubcomp mid => exact pair (keep_handlePubackcomp mid h)
  case publish m => exact frame.handlePublish lowOk (fun _ => trivial) m h
  case pubrec mid => exact pair (keep_handlePubrec mid h)
  case pubrel mid => exact frame.handlePubrel lowOk (fun _ => trivial) mid h
  case suback mid code => exact frame.thenEmit h trivial
  case unsuback mid => exact frame.thenEmit h trivial
  case disconnect r =>
    split
    · exact frame.handleDisconnect lowOk r h
    · exact h
  case badcmd => exact h
  case malformed => exact h

theorem packetHandle_five (s : S) (p : RxPkt) (ok : Bool) (h5 : s.proto = 5) :
    key (s.packetHandle p ok).1 = key s ∨ key (s.packetHandle p ok).1 = ⟨s.cfg, 5, false⟩ := by
  by_cases hp : ∀ sp rc, p ≠ .connack sp rc
  · exact Or.inl (keep_packetHandle p ok hp rfl)
  · have : ∃ sp rc, p = .connack sp rc := by
      refine Classical.byContradiction fun hn => hp fun sp rc he => hn ⟨sp, rc, he⟩
    obtain ⟨sp, rc, rfl⟩ := this
    by_cases h0 : rc = 0
    · rcases handleConnack_five s sp rc ok h5 with ⟨n, hn⟩ | h
      · left; simp [packetHandle, hn]
      · right; simpa [packetHandle, h0] using h
    · left; simpa [packetHandle] using handleConnack_five_refused s sp rc ok h5 h0

theorem loopRead_noSock (s : S) (item : RxItem) (ok : Bool) (h : s.sock = none) :
    s.loopRead item ok = (s, .rc rcNoConn) := by
  unfold loopRead
  rw [h]

/-- what `loop_read()` does after the packet handler keeps the three components -/
theorem key_loopRead_pkt (s : S) (p : RxPkt) (ok : Bool) (hs : s.sock.isSome) :
    key (s.loopRead (.pkt p) ok).1 = key (s.packetHandle p ok).1 := by
  unfold loopRead
  split
  · rename_i h; simp [h] at hs
  · rcases hph : s.packetHandle p ok with ⟨s1, r⟩
    simp only [hph]
    cases r
    case raised n => rfl
    case rc rc =>
      dsimp only
      split
      · exact keep_loopRcHandle rc (keep_upd (s' := { s1 with lastIn := s1.now }) (Eq.refl (key s1)) rfl rfl rfl)
      · split
        · rfl
        · split <;> rfl

theorem loopRead_five (s : S) (item : RxItem) (ok : Bool) (h5 : s.proto = 5) :
    key (s.loopRead item ok).1 = key s ∨ key (s.loopRead item ok).1 = ⟨s.cfg, 5, false⟩ := by
  cases hs : s.sock with
  | none => left; rw [loopRead_noSock s item ok hs]
  | some c =>
    cases item
    case pkt p =>
      rw [key_loopRead_pkt s p ok (by simp [hs])]
      exact packetHandle_five s p ok h5
    case none => left; unfold loopRead; split <;> rfl
    all_goals
      left
      unfold loopRead
      split
      · rfl
      · exact keep_loopRcHandle rcConnLost rfl

theorem loopRead_connack_five (s : S) (sp : Bool) (rc : Nat) (ok : Bool) (h5 : s.proto = 5) (hs : s.sock.isSome)
    (h0 : rc = 0) :
    (∃ n, (s.loopRead (.pkt (.connack sp rc)) ok).2 = .raised n) ∨
      key (s.loopRead (.pkt (.connack sp rc)) ok).1 = ⟨s.cfg, 5, false⟩ := by
  rcases hph : s.handleConnack sp rc ok with ⟨s1, r⟩
  cases r
  case raised n =>
    left
    refine ⟨n, ?_⟩
    unfold loopRead
    split
    · rename_i h; simp [h] at hs
    · simp [packetHandle, hph]
  case rc rc' =>
    right
    rw [key_loopRead_pkt s _ ok hs]
    rcases handleConnack_five s sp rc ok h5 with ⟨n, hn⟩ | h
    · rw [hph] at hn; cases hn
    · simpa [packetHandle, h0] using h

/-- whether the handler raises or not -/
theorem loopRead_connack_five_refused (s : S) (sp : Bool) (rc : Nat) (ok : Bool) (h5 : s.proto = 5) (h0 : rc ≠ 0) :
    key (s.loopRead (.pkt (.connack sp rc)) ok).1 = key s := by
  cases hs : s.sock with
  | none => rw [loopRead_noSock s _ ok hs]
  | some c =>
    rw [key_loopRead_pkt s _ ok (by simp [hs])]
    simpa [packetHandle] using handleConnack_five_refused s sp rc ok h5 h0

/-- one step on MQTT 5: only `connect()` can set `firstConnect` -/
theorem step_five (s : S) (op : Op) (h5 : s.proto = 5) (hop : ∀ b, op ≠ .connect b) :
    key (s.step op) = key s ∨ key (s.step op) = ⟨s.cfg, 5, false⟩ := by
  have pairH : ∀ q : S × HRes, key (match q with | (s, r) => s.emit (hresEv r)) = key q.1 := fun _ => rfl
  have pairR : ∀ q : S × RC, key (match q with | (s, rc) => s.emit (.ret rc none)) = key q.1 := fun _ => rfl
  cases op <;> unfold S.step <;> dsimp only
  case connect b => exact absurd rfl (hop b)
  case rx item ok => rw [pairH]; exact loopRead_five s item ok h5
  case reconnect ok => rw [pairH]; exact Or.inl (keep_reconnect ok rfl)
  case connectAsync => exact Or.inl (key_connectAsync s)
  case publish q t p r => exact Or.inl (keep_publish q t p r rfl)
  case subscribe t q => exact Or.inl (keep_subscribe t q rfl)
  case unsubscribe t => exact Or.inl (keep_unsubscribe t rfl)
  case disconnect => exact Or.inl (keep_disconnect rfl)
  case loopWrite => rw [pairR]; exact Or.inl (keep_loopWrite rfl)
  case loopMisc => rw [pairR]; exact Or.inl (frame.loopMisc lowOk rfl)
  case ack m q => exact Or.inl (keep_ack m q rfl)
  all_goals exact Or.inl rfl

/-- `connect()` sets `firstConnect` again on MQTT 5 and changes nothing else the clean flag depends on -/
theorem step_connect (s : S) (b : Bool) :
    key (s.step (.connect b)) = ⟨s.cfg, s.proto, if s.proto = 5 then true else s.firstConnect⟩ := by
  show key (s.connect b).1 = _
  unfold connect
  extract_lets s1
  refine (keep_reconnect b (key_connectAsync s1)).trans ?_
  unfold s1
  split <;> rfl

theorem step_cfg_proto (s : S) (op : Op) (h5 : s.proto = 5) : (s.step op).cfg = s.cfg ∧ (s.step op).proto = 5 := by
  by_cases hop : ∀ b, op ≠ .connect b
  · rcases step_five s op h5 hop with h | h <;> simp only [key, Key.mk.injEq] at h
    · exact ⟨h.1, h.2.1.trans h5⟩
    · exact ⟨h.1, h.2.1⟩
  · have : ∃ b, op = .connect b := by
      refine Classical.byContradiction fun hn => hop fun b hb => hn ⟨b, hb⟩
    obtain ⟨b, rfl⟩ := this
    have h := step_connect s b
    simp only [key, Key.mk.injEq] at h
    exact ⟨h.1, h.2.1.trans h5⟩

theorem run_cfg_proto (ops : List Op) (s : S) (h5 : s.proto = 5) : (s.run ops).cfg = s.cfg ∧ (s.run ops).proto = 5 :=
  S.run_ind (P := fun x => x.cfg = s.cfg ∧ x.proto = 5)
    (fun x op h => ⟨(step_cfg_proto x op h.2).1.trans h.1, (step_cfg_proto x op h.2).2⟩) ops ⟨rfl, h5⟩

/-- once cleared, `firstConnect` stays cleared until the next `connect()` -/
theorem run_fc_false (ops : List Op) (s : S) (h5 : s.proto = 5) (hf : s.firstConnect = false)
    (hops : ∀ op ∈ ops, ∀ b, op ≠ .connect b) : (s.run ops).firstConnect = false := by
  induction ops generalizing s with
  | nil => exact hf
  | cons op rest ih =>
    have h1 := step_cfg_proto s op h5
    refine ih (s.step op) h1.2 ?_ (fun o ho => hops o (List.mem_cons_of_mem _ ho))
    rcases step_five s op h5 (hops op List.mem_cons_self) with h | h <;> simp only [key, Key.mk.injEq] at h
    · exact h.2.2.trans hf
    · exact h.2.2

end Paho.CleanFlag
