/-
C07, section B (queue / wake-up pipe / writer): the invariants of `WakeSys`, by cases on `Moves`, lifted to `run`.
-/
import PahoProofs.Lemmas.ThrUpd
namespace Paho.Thr
open Paho

theorem Pkt.rest_advance (p : Pkt) (n : Nat) : ({ p with pos := p.pos + n } : Pkt).rest = p.rest.drop n := by
  simp only [Pkt.rest, ← List.map_drop, List.drop_range']
  congr 2 <;> omega

theorem Pkt.take_rest (p : Pkt) (n : Nat) : p.rest.take n ++ ({ p with pos := p.pos + n } : Pkt).rest = p.rest := by
  rw [Pkt.rest_advance, List.take_append_drop]

theorem Pkt.rest_length (p : Pkt) : p.rest.length = p.len - p.pos := by simp [Pkt.rest]

theorem Pkt.rest_done (p : Pkt) (h : p.len ≤ p.pos) : p.rest = [] := by
  have : p.len - p.pos = 0 := by omega
  simp [Pkt.rest, this]

def WakeSys.init (writer : Tid) : WakeSys := { loopTid := writer }

/-- `_out_packet.append`: the queue and the ghost record of the connection -/
def WakeSys.app (s : WakeSys) (id len : Nat) : WakeSys :=
  { s with queue := s.queue ++ [{ id := id, len := len }], all := s.all ++ [{ id := id, len := len }],
           fresh := s.fresh && decide (id ≠ 0), raced := if s.fresh ∧ id ≠ 0 then s.raced + 1 else s.raced }

/-- `step` read off once: the effect of an enabled action, with as much of its guard as the invariants need. `goto`: the
writer's moves that change only its program counter, never to `armed`. `append` and `wake` are as under
`Gen.wakeAfterAppend = true`, `pushback` as under `Gen.pushbackFront = true`. -/
inductive WakeSys.Moves (s : WakeSys) (t : Tid) : WAct → WakeSys → Prop
  | appendNoPipe (id len : Nat) : s.hasPipe = false → Moves s t (.append id len) (s.app id len)
  | append (id len : Nat) : s.ppc t = .idle →
      Moves s t (.append id len) { s.app id len with ppc := upd s.ppc t .half, nhalf := s.nhalf + 1 }
  | wake : s.ppc t = .half →
      Moves s t .wake { s with pipe := s.pipe + 1, ppc := upd s.ppc t .idle, nhalf := s.nhalf - 1 }
  | wantw : s.hand = none → s.hasPipe = true → Moves s t .wantw { s with lpc := .armed (!s.queue.isEmpty) }
  | select (w sockR writable : Bool) : s.lpc = .armed w →
      Moves s t (.select sockR writable)
        { s with lpc := .woke (decide (s.pipe > 0)) (w && writable),
                 stalls := if (!sockR && !decide (s.pipe > 0) && !(w && writable)) ∧ writable ∧ !s.queue.isEmpty ∧ s.nhalf = 0
                           then s.stalls + 1 else s.stalls }
  | drain : Moves s t .drain { s with pipe := s.pipe - min s.pipe 10000, lpc := .woke false true }
  | pop (p : Pkt) (rest : List Pkt) : s.hand = none → s.lpc.mayWrite = true → s.queue = p :: rest →
      Moves s t .pop { s with queue := rest, hand := some p }
  | send (p : Pkt) (n : Nat) : s.hand = some p → 0 < n → n ≤ p.len - p.pos →
      Moves s t (.send n) { s with wire := s.wire ++ p.rest.take n,
                                   hand := if p.pos + n = p.len then none else some { p with pos := p.pos + n } }
  | pushback (p : Pkt) : s.hand = some p → Moves s t .pushback { s with queue := p :: s.queue, hand := none }
  | clear : s.hand = none → Moves s t .clear { s with queue := [], all := [], wire := [], fresh := true }
  | handover (l : LPc) : (∀ w, l ≠ .armed w) →
      Moves s t .handover { s with loopTid := t, pipe := 0, hasPipe := true, lpc := l }
  | goto (a : WAct) (l : LPc) : (∀ w, l ≠ .armed w) → Moves s t a { s with lpc := l }

theorem WakeSys.step_moves {s s' : WakeSys} {t : Tid} {a : WAct} (h : s.step t a = some s') : s.Moves t a s' := by
  have top : ∀ w, LPc.top ≠ .armed w := fun _ => LPc.noConfusion
  cases a <;> dsimp only [WakeSys.step, Gen.wakeAfterAppend, Gen.loopOrderOk, Gen.pushbackFront] at h
  case append id len =>
    split at h
    · rename_i hp
      split at h
      · cases h; exact .appendNoPipe id len (by simpa using hp)
      · cases h
    · split at h
      · rename_i hi
        obtain ⟨-, rfl⟩ := Option.ite_some_none_eq_some.1 h
        exact .append id len hi
      · cases Option.ite_none_left_eq_some.1 h |>.1 rfl
  case wake =>
    obtain ⟨-, h⟩ := Option.ite_none_left_eq_some.1 h
    split at h
    · cases Option.ite_none_left_eq_some.1 h |>.1 rfl
    · rename_i hh
      obtain ⟨-, rfl⟩ := Option.ite_some_none_eq_some.1 h
      exact .wake hh
  case wantw =>
    obtain ⟨hg, rfl⟩ := Option.ite_some_none_eq_some.1 h
    exact .wantw (by simpa using hg.2.2.1) hg.2.2.2
  case select sockR writable =>
    obtain ⟨-, h⟩ := Option.ite_none_left_eq_some.1 h
    split at h
    · rename_i w hw; cases h; exact .select w sockR writable hw
    · cases h
  case drain =>
    obtain ⟨-, h⟩ := Option.ite_none_left_eq_some.1 h
    split at h
    · obtain ⟨-, rfl⟩ := Option.ite_some_none_eq_some.1 h
      exact .drain
    · cases h
  case pop =>
    obtain ⟨hg, h⟩ := Option.ite_none_left_eq_some.1 h
    simp only [not_or, Bool.not_eq_true, Option.isSome_eq_false_iff, Option.isNone_iff_eq_none, Bool.not_eq_eq_eq_not,
      Bool.not_true, Bool.not_eq_false] at hg
    split at h
    · rename_i p rest hq; cases h; exact .pop p rest hg.2.1 hg.2.2 hq
    · cases h
      refine .goto _ _ fun w => ?_
      split
      · exact nofun
      · intro hw; rw [hw] at hg; exact absurd hg.2.2 (by simp [LPc.mayWrite])
  case send n =>
    obtain ⟨-, h⟩ := Option.ite_none_left_eq_some.1 h
    split at h
    · rename_i p hp
      obtain ⟨hn, rfl⟩ := Option.ite_some_none_eq_some.1 h
      exact .send p n hp hn.1 hn.2
    · cases h
  case pushback =>
    obtain ⟨-, h⟩ := Option.ite_none_left_eq_some.1 h
    split at h
    · rename_i p hp; cases h; exact .pushback p hp
    · cases h
  case clear =>
    obtain ⟨hh, h⟩ := Option.ite_none_left_eq_some.1 h
    cases h
    exact .clear (by simpa using hh)
  case handover =>
    obtain ⟨-, h⟩ := Option.ite_none_left_eq_some.1 h
    split at h
    · rename_i hl; cases h; exact .handover _ (hl ▸ top)
    · cases h; exact .handover _ top
    · cases h; exact .handover _ top
    · cases h
  case endw | next =>
    obtain ⟨-, rfl⟩ := Option.ite_some_none_eq_some.1 h
    exact .goto _ _ nofun
  case startw | skipw | abort | stop =>
    obtain ⟨-, h⟩ := Option.ite_none_left_eq_some.1 h
    split at h <;> cases h <;> exact .goto _ _ nofun

variable {s s' : WakeSys} {t : Tid} {a : WAct}

def Fifo (s : WakeSys) : Prop := s.wire ++ s.handBytes ++ s.queueBytes = s.allBytes

theorem fifo_step (hi : Fifo s) (h : s.Moves t a s') : Fifo s' := by
  unfold Fifo WakeSys.handBytes WakeSys.queueBytes WakeSys.allBytes at *
  cases h with
  | appendNoPipe id len | append id len =>
    simp only [WakeSys.app, List.flatMap_append, ← List.append_assoc, hi]; rfl
  | pop p rest hh _ hq =>
    rw [hh, hq] at hi
    simpa using hi
  | send p n hp hn hle =>
    rw [hp] at hi
    have key := p.take_rest n
    rw [← hi]
    by_cases hd : p.pos + n = p.len
    · rw [Pkt.rest_done { p with pos := p.pos + n } (Nat.le_of_eq hd.symm), List.append_nil] at key
      simp [hd, key]
    · simp only [hd, if_false, List.append_assoc, key]
  | pushback p hp =>
    rw [hp] at hi
    simpa using hi
  | clear hh => simp [hh]
  | _ => exact hi

theorem Fifo.drained (h : Fifo s) (hq : s.queue = []) (hh : s.handBytes = []) : s.wire = s.allBytes := by
  simpa [Fifo, hh, WakeSys.queueBytes, hq] using h

/-- `nhalf` counts the threads that are half-way: appended, wake-up byte not yet written -/
def Cnt (s : WakeSys) : Prop := ∃ hs : List Tid, hs.Nodup ∧ hs.length = s.nhalf ∧ ∀ t, s.ppc t = .half ↔ t ∈ hs

theorem cnt_step (hi : Cnt s) (h : s.Moves t a s') : Cnt s' := by
  obtain ⟨hs, hnd, hlen, hmem⟩ := hi
  cases h with
  | append id len hidle =>
    have hnot : t ∉ hs := by rw [← hmem, hidle]; simp
    refine ⟨t :: hs, List.nodup_cons.2 ⟨hnot, hnd⟩, by simp [hlen], fun x => ?_⟩
    by_cases hx : x = t
    · subst hx; simp
    · simp [upd_other _ _ _ hx, hmem, hx]
  | wake hhalf =>
    have hin : t ∈ hs := (hmem t).1 hhalf
    refine ⟨hs.erase t, hnd.erase t, by simp [List.length_erase_of_mem hin, hlen], fun x => ?_⟩
    by_cases hx : x = t
    · subst hx; simp [hnd.mem_erase_iff]
    · simp [upd_other _ _ _ hx, hmem, hx, hnd.mem_erase_iff]
  | _ => exact ⟨hs, hnd, hlen, hmem⟩

theorem Cnt.zero (h : Cnt s) (h0 : s.nhalf = 0) (t : Tid) : s.ppc t = .idle := by
  obtain ⟨hs, _, hlen, hmem⟩ := h
  have : hs = [] := List.eq_nil_of_length_eq_zero (by omega)
  subst this
  have := hmem t
  cases hp : s.ppc t <;> simp_all

theorem Cnt.pos (h : Cnt s) (h0 : s.nhalf > 0) : ∃ t, s.ppc t = .half := by
  obtain ⟨hs, _, hlen, hmem⟩ := h
  match hs, hlen with
  | [], hlen => simp at hlen; omega
  | t :: _, _ => exact ⟨t, (hmem t).2 (by simp)⟩

/-- the writer is in `armed` only with a wake-up pipe and nothing in hand (`wantw` requires both) -/
def ArmedOk (s : WakeSys) : Prop := ∀ w, s.lpc = .armed w → s.hasPipe = true ∧ s.hand = none

theorem armedok_step (hi : ArmedOk s) (h : s.Moves t a s') : ArmedOk s' := by
  intro w hw
  cases h with
  | wantw hh hp => exact ⟨hp, hh⟩
  | select | drain => cases hw
  | pop p rest _ hm => rw [show s.lpc = .armed w from hw] at hm; cases hm
  | send p n hp => exact absurd (hi w hw).2 (by simp [hp])
  | pushback => exact ⟨(hi w hw).1, rfl⟩
  | handover l hl | goto a l hl => exact absurd hw (hl w)
  | _ => exact hi w hw

/-- no lost wake-up, with the ghost counter for "some thread is half-way" -/
def NoLost0 (s : WakeSys) : Prop := s.queue ≠ [] → s.lpc = .armed false → s.pipe > 0 ∨ s.nhalf > 0

theorem nolost0_step (hA : ArmedOk s) (hi : NoLost0 s) (h : s.Moves t a s') : NoLost0 s' := by
  intro hq hl
  cases h with
  | appendNoPipe id len hp => rw [(hA _ hl).1] at hp; cases hp
  | append => exact .inr (Nat.succ_pos _)
  | wake => exact .inl (Nat.succ_pos _)
  | wantw => simp at hq hl; exact absurd hl hq
  | select | drain => cases hl
  | pop p rest _ hm => rw [show s.lpc = .armed false from hl] at hm; cases hm
  | pushback p hp => exact absurd (hA _ hl).2 (by simp [hp])
  | clear => exact absurd rfl hq
  | handover l hn | goto a l hn => exact absurd hl (hn _)
  | _ => exact hi hq hl

/-- a time-out with the socket writable and a packet queued has `w = false` (else the socket is ready), and then by
`NoLost0` the pipe is readable or a thread is half-way -/
theorem nostall_step (hl : NoLost0 s) (h0 : s.stalls = 0) (h : s.Moves t a s') : s'.stalls = 0 := by
  cases h with
  | select w sockR writable hw =>
    show (if _ then _ else _) = 0
    rw [if_neg, h0]
    rintro ⟨hto, hwr, hq, hn⟩
    cases w
    · have := hl (by simpa using hq) hw
      simp at hto
      omega
    · simp [hwr] at hto
  | _ => exact h0

/-- unless a packet has raced in: nothing is queued on the connection while `fresh` (CONNECT not queued yet), and
CONNECT (id 0) is its first packet afterwards -/
def ConnFirst (s : WakeSys) : Prop :=
  s.raced = 0 → if s.fresh then s.all = [] else (s.all.head?.map (·.id)) = some 0

theorem ConnFirst.app (hi : ConnFirst s) (id len : Nat) : ConnFirst (s.app id len) := by
  unfold ConnFirst at *
  simp only [WakeSys.app]
  by_cases hf : s.fresh = true
  · by_cases hid : id = 0
    · simp [hf, hid] at hi ⊢
      intro h0; simp [hi h0]
    · simp [hf, hid]
  · simp [hf] at hi ⊢
    intro h0
    have := hi h0
    cases hall : s.all with
    | nil => simp [hall] at this
    | cons x xs => simpa [hall] using this

theorem connfirst_step (hi : ConnFirst s) (h : s.Moves t a s') : ConnFirst s' := by
  cases h with
  | appendNoPipe id len | append id len => exact hi.app id len
  | clear => intro _; rfl
  | _ => exact hi

structure WInv (s : WakeSys) : Prop where
  fifo : Fifo s
  cnt : Cnt s
  armed : ArmedOk s
  nolost : NoLost0 s
  nostall : s.stalls = 0
  connFirst : ConnFirst s

theorem WInv.step (hi : WInv s) (h : s.Moves t a s') : WInv s' :=
  ⟨fifo_step hi.fifo h, cnt_step hi.cnt h, armedok_step hi.armed h, nolost0_step hi.armed hi.nolost h,
    nostall_step hi.nolost hi.nostall h, connfirst_step hi.connFirst h⟩

theorem WInv.init (w : Tid) : WInv (WakeSys.init w) :=
  ⟨by simp [Fifo, WakeSys.init, WakeSys.handBytes, WakeSys.queueBytes, WakeSys.allBytes],
    ⟨[], by simp, rfl, by simp [WakeSys.init]⟩, nofun, nofun, rfl, fun _ => rfl⟩

theorem WInv.run (h : WInv s) (sched : List (Tid × WAct)) : WInv (s.run sched) :=
  run_inv (fun _ => rfl) (fun _ _ _ _ => rfl) sched (fun _ _ _ _ _ h hs => h.step (WakeSys.step_moves hs)) s h

theorem Pkt.rest_nodup (p : Pkt) : p.rest.Nodup := by
  unfold Pkt.rest
  have := List.nodup_range' (s := p.pos) (n := p.len - p.pos) 1
  unfold List.Nodup at *
  rw [List.pairwise_map]
  exact this.imp (by intro a b hab h; apply hab; simpa using h)

theorem Pkt.mem_rest {p : Pkt} {x : Nat × Nat} (h : x ∈ p.rest) : x.1 = p.id := by
  simp [Pkt.rest] at h
  obtain ⟨_, _, rfl⟩ := h
  rfl

theorem bytes_nodup (l : List Pkt) (h : (l.map (·.id)).Nodup) :
    (l.flatMap fun p => ({ p with pos := 0 } : Pkt).rest).Nodup := by
  induction l with
  | nil => simp
  | cons p ps ih =>
    simp only [List.map_cons, List.nodup_cons] at h
    simp only [List.flatMap_cons, List.nodup_append]
    refine ⟨Pkt.rest_nodup _, ih h.2, ?_⟩
    intro a ha b hb hab
    subst hab
    have h1 := Pkt.mem_rest ha
    obtain ⟨q, hq, hbq⟩ := List.mem_flatMap.1 hb
    have h2 := Pkt.mem_rest hbq
    simp at h1 h2
    apply h.1
    rw [← h1, h2]
    exact List.mem_map.2 ⟨q, hq, rfl⟩

end Paho.Thr
