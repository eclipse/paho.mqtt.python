/-
The handlers that touch the message store or the in-flight counter, as relations between two views `V` of the state
and the `qPublish` events in between (`Tr`). `step_tr`: every operation of the model is one `StepR` step.
-/
import Paho.Model.SessionInv
import PahoProofs.Lemmas.SessionDefs
import PahoProofs.Lemmas.FlowBase
import PahoProofs.Properties.C19
import PahoProofs.Lemmas.PropsVbi

namespace Paho.FlowLemmas
open Paho Paho.S

/-- for the `let (s', rc) := ..` of the model -/
theorem eq_fst_snd {α β} {p : α × β} {a : α} {b : β} (h : p = (a, b)) : a = p.1 ∧ b = p.2 := by
  rw [h]; exact ⟨rfl, rfl⟩

structure V where
  cfg : Cfg
  out : List OutMsg
  inflight : Int
  ninfos : Nat
  /-- the protocol is MQTT 5 -/
  p5 : Prop
  /-- `_last_mid` is a 16 bit value; like `p5`, no handler changes it -/
  mok : Prop

def view (s : S) : V := ⟨s.cfg, s.out, s.inflight, s.infos.length, s.proto = 5, s.lastMid ≤ 65535⟩

/-- `s.log` is a prefix of `s'.log` -/
def Pre (s s' : S) : Prop := s'.log = s.log ++ evsOf s s'

def qpubs (s s' : S) : List Ev := (evsOf s s').filter isQPublish

theorem mem_qpubs {s s' : S} {e : Ev} (h : e ∈ evsOf s s') (hq : isQPublish e = true) : e ∈ qpubs s s' :=
  List.mem_filter.2 ⟨h, hq⟩

variable {s s' s1 s2 : S} {R : V → V → List Ev → Prop}

theorem Pre.of_append {l : List Ev} (h : s'.log = s.log ++ l) : Pre s s' := by
  rw [Pre, evsOf_append h, h]

theorem Pre.refl (s : S) : Pre s s := Pre.of_append (List.append_nil _).symm

@[simp] theorem qpubs_self (s : S) : qpubs s s = [] := by
  rw [qpubs, evsOf_append (List.append_nil _).symm]; rfl

theorem Pre.append (h1 : Pre s s1) (h2 : Pre s1 s2) : s2.log = s.log ++ (evsOf s s1 ++ evsOf s1 s2) := by
  unfold Pre at h1 h2
  rw [← List.append_assoc, ← h1, ← h2]

theorem Pre.trans (h1 : Pre s s1) (h2 : Pre s1 s2) : Pre s s2 := Pre.of_append (h1.append h2)

theorem qpubs_trans (h1 : Pre s s1) (h2 : Pre s1 s2) :
    qpubs s s2 = qpubs s s1 ++ qpubs s1 s2 := by
  rw [qpubs, evsOf_append (h1.append h2), List.filter_append]; rfl

/-- `Fr` as the view sees it -/
def FrQ (s s' : S) : Prop := Pre s s' ∧ view s' = view s ∧ qpubs s s' = []

theorem Fr.frq (h : Fr s s') : FrQ s s' := by
  obtain ⟨h0, h1, h2, h3, h4, h5, _, h7, h8⟩ := h
  exact ⟨h8, by simp only [view, h1, h2, h3, h4, h5, h7], List.filter_eq_nil_iff.2 fun e he => by simpa using h0 e he⟩

theorem FrQ.of_append {l : List Ev} (hl : s'.log = s.log ++ l) (hq : l.filter isQPublish = [])
    (hv : view s' = view s) : FrQ s s' :=
  ⟨Pre.of_append hl, hv, by rw [qpubs, evsOf_append hl, hq]⟩

theorem FrQ.of_eq (hl : s'.log = s.log) (hv : view s' = view s) : FrQ s s' :=
  FrQ.of_append (l := []) (by rw [hl, List.append_nil]) rfl hv

theorem FrQ.refl (s : S) : FrQ s s := FrQ.of_eq rfl rfl

theorem FrQ.emit (s : S) {e : Ev} (he : isQPublish e = false) : FrQ s (s.emit e) :=
  FrQ.of_append (l := [e]) rfl (by rw [List.filter_cons_of_neg (by simp [he])]; rfl) rfl

/-- a handler realises the abstract relation `R` -/
def Tr (R : V → V → List Ev → Prop) (s s' : S) : Prop := Pre s s' ∧ R (view s) (view s') (qpubs s s')

theorem Tr.comp {R1 R2 : V → V → List Ev → Prop} (h1 : Tr R1 s s1) (h2 : Tr R2 s1 s2)
    (hR : ∀ {v v1 v2 L1 L2}, R1 v v1 L1 → R2 v1 v2 L2 → R v v2 (L1 ++ L2)) : Tr R s s2 :=
  ⟨h1.1.trans h2.1, by rw [qpubs_trans h1.1 h2.1]; exact hR h1.2 h2.2⟩

theorem Tr.mono {R' : V → V → List Ev → Prop} (hR : ∀ v v' L, R v v' L → R' v v' L)
    (h : Tr R s s') : Tr R' s s' := ⟨h.1, hR _ _ _ h.2⟩

def RId (v v' : V) (L : List Ev) : Prop := v' = v ∧ L = []

theorem FrQ.tr (h : FrQ s s') : Tr RId s s' := ⟨h.1, h.2.1, h.2.2⟩

theorem Tr.frq {s s' : S} (h : Tr RId s s') : FrQ s s' := ⟨h.1, h.2.1, h.2.2⟩

theorem Tr.frame_right (h : Tr R s s1) (f : FrQ s1 s2) : Tr R s s2 :=
  h.comp f.tr fun hr ⟨hv, hl⟩ => by rw [hv, hl, List.append_nil]; exact hr

theorem Tr.frame_left (f : FrQ s s1) (h : Tr R s1 s2) : Tr R s s2 :=
  f.tr.comp h fun ⟨hv, hl⟩ hr => by rw [hl, ← hv, List.nil_append]; exact hr

theorem FrQ.trans (h1 : FrQ s s1) (h2 : FrQ s1 s2) : FrQ s s2 := (h1.tr.frame_right h2).frq

theorem emit_ret_frq {rc m} : FrQ s (s.emit (.ret rc m)) := FrQ.emit s rfl

inductive Star (R : V → V → List Ev → Prop) : V → V → List Ev → Prop
  | refl (v : V) : Star R v v []
  | step {v v1 v2 : V} {L1 L2 : List Ev} : R v v1 L1 → Star R v1 v2 L2 → Star R v v2 (L1 ++ L2)

/-- an invariant on the view and the events so far, along a `Star` -/
theorem Star.liftAcc (J : V → List Ev → Prop)
    (h : ∀ v v' A L, J v A → R v v' L → J v' (A ++ L)) {v v' : V} {L : List Ev} (hs : Star R v v' L) :
    ∀ A, J v A → J v' (A ++ L) := by
  induction hs with
  | refl => intro A h0; simpa using h0
  | step hr _ ih => intro A h0; rw [← List.append_assoc]; exact ih _ (h _ _ _ _ h0 hr)

theorem Star.lift2 (I : V → Prop) (P : List Ev → Prop) (hnil : P [])
    (happ : ∀ a b, P a → P b → P (a ++ b))
    (h : ∀ v v' L, I v → R v v' L → I v' ∧ P L) {v v' : V} {L : List Ev} (hs : Star R v v' L) (h0 : I v) :
    I v' ∧ P L :=
  hs.liftAcc (fun w A => I w ∧ P A) (fun _ _ A _ hw hr => ⟨(h _ _ _ hw.1 hr).1, happ A _ hw.2 (h _ _ _ hw.1 hr).2⟩)
    [] ⟨h0, hnil⟩

theorem Star.lift (I : V → Prop)
    (h : ∀ v v' L, I v → R v v' L → I v') {v v' : V} {L : List Ev} (hs : Star R v v' L) (h0 : I v) : I v' :=
  hs.liftAcc (fun w _ => I w) (fun _ _ _ _ hw hr => h _ _ _ hw hr) [] h0

theorem Star.mono {R' : V → V → List Ev → Prop} (hR : ∀ v v' L, R v v' L → R' v v' L) {v v' : V} {L : List Ev}
    (hs : Star R v v' L) : Star R' v v' L := by
  induction hs with
  | refl => exact Star.refl _
  | step hr _ ih => exact Star.step (hR _ _ _ hr) ih

theorem Tr.star_refl (h : FrQ s s') : Tr (Star R) s s' :=
  ⟨h.1, by rw [h.2.1, h.2.2]; exact Star.refl _⟩

theorem Tr.star_step (h1 : Tr R s s1) (h2 : Tr (Star R) s1 s2) : Tr (Star R) s s2 :=
  h1.comp h2 Star.step

theorem sendPublish_view (s : S) (mid t p q r d i dir u) : view (s.sendPublish mid t p q r d i dir u).1 = view s := by
  simp [view]

theorem sendPublish_tr {X Y : S} (hX : X.log = s.log) {mid t p q r d i dir u}
    (hY : Y.log = (X.sendPublish mid t p q r d i dir u).1.log)
    (h : R (view s) (view Y) (qpubs X (X.sendPublish mid t p q r d i dir u).1)) : Tr R s Y := by
  have hl : Y.log = s.log ++ evsOf X (X.sendPublish mid t p q r d i dir u).1 := by
    rw [hY, ← hX]; exact (sendPublish_same ..).2.2.2.2.2.2.2.2
  exact ⟨Pre.of_append hl, by rw [qpubs, evsOf_append hl]; exact h⟩

/-- the PUBLISH of a stored message can be encoded, for every protocol version on the view's side of the MQTT 5
divide and either DUP flag -/
def Enc (p5 : Prop) (m : OutMsg) : Prop :=
  ∀ proto dup, (proto = 5 ↔ p5) →
    ∃ b, encPublish proto m.mid m.topic m.payload m.qos m.retain dup none = .ok b

/-- what `_send_publish` hands to the connection for the instance `u` -/
theorem sendPublish_q (s : S) (mid t p q r d i dir) (u : Nat) :
    (qpubs s (s.sendPublish mid t p q r d i dir (some u)).1 = [] ∧
      (s.sock = none ∨ ∃ e, encPublish s.proto mid t p q r d none = .error e)) ∨
    ∃ c, qpubs s (s.sendPublish mid t p q r d i dir (some u)).1 = [.qPublish c u mid q d] := by
  cases hs : s.sock with
  | none => rw [sendPublish_noconn s hs]; exact Or.inl ⟨qpubs_self s, Or.inl rfl⟩
  | some c =>
    unfold sendPublish
    cases he : encPublish s.proto mid t p q r d none with
    | error e =>
      simp only [hs]
      exact Or.inl ⟨(FrQ.emit s rfl).2.2, Or.inr ⟨e, rfl⟩⟩
    | ok b =>
      simp only [hs]
      have f := (packetQueue_fr (s.emit (.qPublish c u mid q d)) (mkPkt 0x30 mid q b i) dir).frq
      refine Or.inr ⟨c, ?_⟩
      rw [qpubs_trans (Pre.of_append rfl) f.1, f.2.2, List.append_nil, qpubs, evsOf_append rfl]
      rfl

/-- the step that `Release` and `Resend` describe -/
theorem stored_send_tr (s : S) (idx : Nat) (m : OutMsg) (st : MS)
    (hs : s.sock.isNone = false) (dir : Bool)
    (hR : ∀ L, ((L = [] ∧ ¬ Enc (view s).p5 m) ∨ ∃ c, L = [.qPublish c m.info m.mid m.qos m.dup]) →
      R (view s) { view s with out := s.out.set idx { m with state := st }, inflight := s.inflight + 1 } L) :
    Tr R s ({ s with inflight := s.inflight + 1, out := s.out.set idx { m with state := st } }.sendPublish
      m.mid m.topic m.payload m.qos m.retain m.dup none dir (some m.info)).1 := by
  refine sendPublish_tr ?_ rfl ?_
  · rfl
  rw [sendPublish_view]
  refine hR _ (Or.imp (fun ⟨h, hn⟩ => ⟨h, fun henc => ?_⟩) id
    (sendPublish_q _ m.mid m.topic m.payload m.qos m.retain m.dup none dir m.info))
  -- the socket is open, and `Enc` gives an encoding for `s.proto`
  obtain ⟨b, hb⟩ := henc s.proto m.dup Iff.rfl
  rcases hn with hn | ⟨e, he⟩
  · cases hs.symm.trans (congrArg Option.isNone hn)
  · cases he.symm.trans hb

/-- a handler that updates the session data (`X`), then makes only frame steps -/
theorem Tr.of_upd {X Y : S} (f : FrQ X Y) (hl : X.log = s.log)
    (h : R (view s) (view X) []) : Tr R s Y :=
  have hY : Y.log = s.log ++ evsOf X Y := by rw [← hl]; exact f.1
  ⟨Pre.of_append hY, by rw [qpubs, evsOf_append hY, f.2.1, show List.filter _ _ = [] from f.2.2]; exact h⟩

def relState (m : OutMsg) : MS :=
  if m.qos = 1 then .waitPuback else if m.qos = 2 then .waitPubrec else m.state

/-- one queued message is released into the window -/
def Release (v v' : V) (L : List Ev) : Prop :=
  ∃ idx m, v.out[idx]? = some m ∧ m.state = .queued ∧ m.qos > 0 ∧ v.inflight < v.cfg.maxInflight ∧
    ((L = [] ∧ ¬ Enc v.p5 m) ∨ ∃ c, L = [.qPublish c m.info m.mid m.qos m.dup]) ∧
    v' = { v with out := v.out.set idx { m with state := relState m }, inflight := v.inflight + 1 }

/-- one stored message is re-sent (no window test: F4) -/
def Resend (v v' : V) (L : List Ev) : Prop :=
  ∃ idx m st, v.out[idx]? = some m ∧
    ((m.state = .publish ∧ ((m.qos = 1 ∧ st = .waitPuback) ∨ (m.qos = 2 ∧ st = .waitPubrec)) ∧
        ((L = [] ∧ ¬ Enc v.p5 m) ∨ ∃ c, L = [.qPublish c m.info m.mid m.qos m.dup])) ∨
     (m.qos = 2 ∧ m.state = .resendPubrel ∧ st = .waitPubcomp ∧ L = [])) ∧
    v' = { v with out := v.out.set idx { m with state := st }, inflight := v.inflight + 1 }

/-- common to `Release` and `Resend`: `m` leaves a resting state for the waiting state `st` and is counted; no PUBLISH
if it cannot be encoded or, after PUBREC, only PUBREL is due -/
def Send (v v' : V) (L : List Ev) : Prop :=
  ∃ idx m st, v.out[idx]? = some m ∧
    v' = { v with out := v.out.set idx { m with state := st }, inflight := v.inflight + 1 } ∧
    (((m.state = .queued ∨ m.state = .publish) ∧ m.qos > 0 ∧ st = relState m ∧
        ((L = [] ∧ ¬ Enc v.p5 m) ∨ ∃ c, L = [.qPublish c m.info m.mid m.qos m.dup])) ∨
      (m.state = .resendPubrel ∧ st = .waitPubcomp ∧ L = []))

/-- where `_update_inflight`, started in `v1` on an open socket, may stop -/
def Complete (v1 v' : V) : Prop :=
  (∀ x ∈ v'.out, x.state ≠ .queued) ∨ v'.inflight ≥ v1.cfg.maxInflight ∨ v'.inflight ≥ v1.inflight + 1

/-- the final acknowledgement of `mid` (PUBACK, PUBCOMP): removal, decrement, release of queued messages; a conforming
one (`conf`) names only counted messages -/
def RAck (conf : Bool) (mid : Nat) (v v' : V) (L : List Ev) : Prop :=
  ∃ m v1, v.out.find? (fun x => decide (x.mid = mid)) = some m ∧
    v1 = { v with out := v.out.filter (fun x => decide (x.mid ≠ mid)),
                  inflight := if m.qos > 0 then v.inflight - 1 else v.inflight } ∧
    (conf = true → ∀ x ∈ v.out, x.mid = mid → x.state.counted = true) ∧
    Star Release v1 v' L ∧
    (v.cfg.maxInflight > 0 → m.qos > 0 → (∀ x ∈ v.out, x.qos = 1 ∨ x.qos = 2) → Complete v1 v')

/-- PUBREC for `mid`; a conforming one (`conf`) names only QoS 2 messages waiting for it or beyond -/
def RPubrec (conf : Bool) (mid : Nat) (v v' : V) (L : List Ev) : Prop :=
  v' = { v with out := v.out.map (fun (m : OutMsg) => if m.mid = mid then { m with state := .waitPubcomp } else m) } ∧
  L = [] ∧
  (conf = true → ∀ x ∈ v.out, x.mid = mid → x.qos = 2 ∧ (x.state = .waitPubrec ∨ x.state = .waitPubcomp))

/-- `_messages_reconnect_reset_out()`, where `_check_clean_session()` returns `cl` -/
def RReset (cl : Bool) (v v' : V) (L : List Ev) : Prop :=
  v' = { v with out := v.out.map (resetOutMsg cl), inflight := 0 } ∧ L = []

/-- `publish()`: one more MQTTMessageInfo. QoS 0 stores nothing; QoS 1 and 2 append `m` with a fresh id: waiting
(window open or unlimited), in `publish` (no connection), or `queued` (window full). -/
def RAdd (v v' : V) (L : List Ev) : Prop :=
  v'.cfg = v.cfg ∧ v'.ninfos = v.ninfos + 1 ∧
  ( (v'.out = v.out ∧ v'.inflight = v.inflight ∧ (L = [] ∨ ∃ c mid, L = [.qPublish c v.ninfos mid 0 false])) ∨
    ∃ m : OutMsg, m.info = v.ninfos ∧ m.dup = false ∧ (m.qos = 1 ∨ m.qos = 2) ∧ (∀ x ∈ v.out, x.mid ≠ m.mid) ∧
      v'.out = v.out ++ [m] ∧
      (L = [] ∨ ∃ c, L = [.qPublish c m.info m.mid m.qos false]) ∧
      ( (m.state = (if m.qos = 1 then .waitPuback else .waitPubrec) ∧
            (v.cfg.maxInflight = 0 ∨ v.inflight < v.cfg.maxInflight) ∧ v'.inflight = v.inflight + 1) ∨
        (m.state = .publish ∧ v'.inflight = v.inflight) ∨
        (m.state = .queued ∧ v.cfg.maxInflight > 0 ∧ v.inflight ≥ v.cfg.maxInflight ∧ v'.inflight = v.inflight ∧ L = []) ) )

/-- what `publish()` guarantees besides `RAdd`: the stored message can be encoded and, if in a waiting state, its
PUBLISH was handed to a connection -/
def RAddX (v v' : V) (L : List Ev) : Prop :=
  v'.p5 = v.p5 ∧ v'.mok = v.mok ∧
  (v.mok → ∀ m, v'.out = v.out ++ [m] →
    Enc v.p5 m ∧ ((m.state = .waitPuback ∨ m.state = .waitPubrec) → ∃ c, L = [.qPublish c m.info m.mid m.qos false]))

@[reducible] def RAdd2 (v v' : V) (L : List Ev) : Prop := RAdd v v' L ∧ RAddX v v' L

/-- one operation of the model; `conf`: `opConforming`, `cl`: `cleanAt`, `rs`: `opRs` -/
inductive StepR (conf cl rs : Bool) : V → V → List Ev → Prop
  | frame {v v' L} : RId v v' L → StepR conf cl rs v v' L
  | ack {v v' L} (mid : Nat) : RAck conf mid v v' L → StepR conf cl rs v v' L
  | pubrec {v v' L} (mid : Nat) : RPubrec conf mid v v' L → StepR conf cl rs v v' L
  | reset {v v' L} : RReset cl v v' L → StepR conf cl rs v v' L
  | resend {v v' L} : rs = true → Star Resend v v' L → StepR conf cl rs v v' L
  | add {v v' L} : RAdd v v' L → RAddX v v' L → StepR conf cl rs v v' L

variable {v v' : V} {L : List Ev} {conf cl rs : Bool}

theorem FrQ.step (h : FrQ s s') : Tr (StepR conf cl rs) s s' := h.tr.mono fun _ _ _ => StepR.frame

theorem Fr.step (h : Fr s s') : Tr (StepR conf cl rs) s s' := h.frq.step

theorem relState_cases (m : OutMsg) : relState m = .waitPuback ∨ relState m = .waitPubrec ∨ relState m = m.state := by
  unfold relState
  split
  · exact Or.inl rfl
  · split
    · exact Or.inr (Or.inl rfl)
    · exact Or.inr (Or.inr rfl)

theorem relState_wait {m : OutMsg} (hq : m.qos = 1 ∨ m.qos = 2) :
    relState m = .waitPuback ∨ relState m = .waitPubrec := by
  rcases hq with h | h
  · exact Or.inl (if_pos h)
  · exact Or.inr ((if_neg (by rw [h]; decide)).trans (if_pos h))

theorem Release.send (h : Release v v' L) : Send v v' L := by
  obtain ⟨idx, m, hm, hst, hq, _, hL, rfl⟩ := h
  exact ⟨idx, m, _, hm, rfl, Or.inl ⟨Or.inl hst, hq, rfl, hL⟩⟩

theorem Resend.send (h : Resend v v' L) : Send v v' L := by
  obtain ⟨idx, m, st, hm, hcase, rfl⟩ := h
  refine ⟨idx, m, st, hm, rfl, hcase.imp (fun ⟨h1, h2, hL⟩ => ⟨Or.inr h1, ?_, ?_, hL⟩) fun ⟨_, h⟩ => h⟩
  · rcases h2 with ⟨h, _⟩ | ⟨h, _⟩ <;> rw [h] <;> decide
  · rcases h2 with ⟨h, rfl⟩ | ⟨h, rfl⟩
    · exact (if_pos h).symm
    · exact ((if_neg (by rw [h]; decide)).trans (if_pos h)).symm

theorem Star.release_send (h : Star Release v v' L) : Star Send v v' L := h.mono fun _ _ _ => Release.send

theorem Star.resend_send (h : Star Resend v v' L) : Star Send v v' L := h.mono fun _ _ _ => Resend.send

theorem Send.cfg_inflight (h : Send v v' L) : v'.cfg = v.cfg ∧ v'.inflight = v.inflight + 1 := by
  obtain ⟨idx, m, st, _, rfl, _⟩ := h
  exact ⟨rfl, rfl⟩

theorem Send.star_cfg_inflight (h : Star Send v v' L) : v'.cfg = v.cfg ∧ v.inflight ≤ v'.inflight :=
  Star.lift (fun w => w.cfg = v.cfg ∧ v.inflight ≤ w.inflight)
    (fun _ _ _ hw hr => ⟨(Send.cfg_inflight hr).1.trans hw.1, (Send.cfg_inflight hr).2 ▸ Int.le_add_one hw.2⟩)
    h ⟨rfl, Int.le_refl _⟩

theorem noQueued_of_pre (l : List OutMsg) (idx : Nat) (hl : l.length ≤ idx)
    (hp : ∀ j x, j < idx → l[j]? = some x → x.state ≠ .queued) : ∀ x ∈ l, x.state ≠ .queued := by
  intro x hx
  obtain ⟨j, hj, rfl⟩ := List.mem_iff_getElem.1 hx
  exact hp j _ (Nat.lt_of_lt_of_le hj hl) (List.getElem?_eq_getElem hj)

theorem updateInflight_spec (s : S) (fuel idx : Nat) :
    Tr (Star Release) s (s.updateInflight fuel idx).1 ∧
    (s.sock.isNone = false → (∀ x ∈ s.out, x.qos = 1 ∨ x.qos = 2) →
      (∀ j x, j < idx → s.out[j]? = some x → x.state ≠ .queued) → s.out.length < fuel + idx →
      Complete (view s) (view (s.updateInflight fuel idx).1)) := by
  have stop : ∀ s' : S, Tr (Star Release) s' s' := fun s' => Tr.star_refl (FrQ.refl s')
  induction fuel generalizing s idx with
  | zero =>
    unfold updateInflight
    exact ⟨stop s, fun _ _ hpre hf => Or.inl (noQueued_of_pre s.out idx (Nat.le_of_lt (Nat.zero_add idx ▸ hf)) hpre)⟩
  | succ n ih =>
    unfold updateInflight
    split
    · rename_i hnone
      exact ⟨stop s, fun _ _ hpre _ => Or.inl (noQueued_of_pre s.out idx (List.getElem?_eq_none_iff.1 hnone) hpre)⟩
    rename_i m hm
    by_cases hs : s.sock.isNone = true
    · rw [if_pos hs]; exact ⟨stop s, fun h => absurd (hs.symm.trans h) nofun⟩
    rw [if_neg hs]
    by_cases hlt : s.inflight < s.cfg.maxInflight
    · rw [if_pos hlt]
      by_cases hc : m.qos > 0 ∧ m.state = .queued
      · rw [if_pos hc]
        simp only []
        generalize hsp : S.sendPublish _ _ _ _ _ _ _ _ _ _ = sp
        have hrel : Tr Release s sp.1 := hsp ▸ stored_send_tr s idx m (relState m) (Bool.eq_false_iff.2 hs) true
          fun L hL => ⟨idx, m, hm, hc.2, hc.1, hlt, hL, rfl⟩
        have hinf : (view sp.1).inflight = s.inflight + 1 := hrel.2.send.cfg_inflight.2
        -- whatever the loop does next, the counter has gone up
        have fin : ∀ s' : S, Tr (Star Release) sp.1 s' → Tr (Star Release) s s' ∧ Complete (view s) (view s') :=
          fun s' h => ⟨Tr.star_step hrel h, Or.inr (Or.inr (hinf ▸ (Send.star_cfg_inflight h.2.release_send).2))⟩
        split
        · exact ⟨(fin _ (stop _)).1, fun _ _ _ _ => (fin _ (stop _)).2⟩
        · exact ⟨(fin _ (ih _ _).1).1, fun _ _ _ _ => (fin _ (ih _ _).1).2⟩
      · rw [if_neg hc]
        refine ⟨(ih s (idx + 1)).1, fun hs' hq hpre hf => (ih s (idx + 1)).2 hs' hq (fun j x hj hx => ?_)
          (by rw [← Nat.add_assoc, Nat.add_right_comm]; exact hf)⟩
        rcases Nat.lt_or_ge j idx with h | h
        · exact hpre j x h hx
        · -- `m` at `idx` has QoS 1 or 2 and was not released, so it is not queued
          cases Nat.le_antisymm (Nat.le_of_lt_succ hj) h
          cases hm.symm.trans hx
          exact fun hst => hc ⟨by rcases hq m (List.mem_of_getElem? hm) with h | h <;> rw [h] <;> decide, hst⟩
    · rw [if_neg hlt]
      exact ⟨stop s, fun _ _ _ _ => Or.inr (Or.inl (Int.not_lt.1 hlt))⟩

theorem updateInflight_cfg (s : S) (fuel idx : Nat) : (s.updateInflight fuel idx).1.cfg = s.cfg :=
  (Send.star_cfg_inflight (updateInflight_spec s fuel idx).1.2.release_send).1

theorem connackResend_tr (s : S) (fuel idx : Nat) (rc : RC) : Tr (Star Resend) s (s.connackResend fuel idx rc).1 := by
  induction fuel generalizing s idx rc with
  | zero => unfold connackResend; exact Tr.star_refl (FrQ.refl s)
  | succ n ih =>
    unfold connackResend
    split
    · exact Tr.star_refl (FrQ.refl s)
    rename_i m hm
    by_cases hs : s.sock.isNone = true
    · rw [if_pos hs]; exact Tr.star_refl (FrQ.refl s)
    rw [if_neg hs]
    have hs' : s.sock.isNone = false := Bool.eq_false_iff.2 hs
    by_cases hqd : m.state = .queued
    · rw [if_pos hqd]; exact Tr.star_refl (loopWrite_fr s).frq
    rw [if_neg hqd]
    -- after a message was re-sent: stop on failure, else flush and go on with the next one
    have next : ∀ sp : S × RC, Tr Resend s sp.1 → Tr (Star Resend) s
        (if decide (sp.2 ≠ rcSuccess) = true then (sp.1, sp.2) else sp.1.loopWrite.1.connackResend n (idx + 1) sp.2).1 := by
      intro sp h
      by_cases hr : decide (sp.2 ≠ rcSuccess) = true
      · rw [if_pos hr]; exact Tr.star_step h (Tr.star_refl (FrQ.refl _))
      · rw [if_neg hr]; exact Tr.star_step h (Tr.frame_left (loopWrite_fr _).frq (ih _ _ _))
    by_cases h1 : m.qos = 1 ∧ m.state = .publish
    · rw [if_pos h1]
      exact next _ (stored_send_tr s idx m .waitPuback hs' false
        fun L hL => ⟨idx, m, _, hm, Or.inl ⟨h1.2, Or.inl ⟨h1.1, rfl⟩, hL⟩, rfl⟩)
    rw [if_neg h1]
    by_cases h2 : m.qos = 2 ∧ m.state = .publish
    · rw [if_pos h2]
      exact next _ (stored_send_tr s idx m .waitPubrec hs' false
        fun L hL => ⟨idx, m, _, hm, Or.inl ⟨h2.2, Or.inr ⟨h2.1, rfl⟩, hL⟩, rfl⟩)
    rw [if_neg h2]
    by_cases h3 : m.qos = 2 ∧ m.state = .resendPubrel
    · rw [if_pos h3]
      exact next _ (Tr.of_upd (sendPubrel_fr _ m.mid false).frq rfl
        ⟨idx, m, .waitPubcomp, hm, Or.inr ⟨h3.1, h3.2, rfl, rfl⟩, rfl⟩)
    · rw [if_neg h3]
      exact Tr.frame_left (loopWrite_fr _).frq (ih _ _ _)

theorem doOnPublish_tr (s : S) (mid : Nat) (hs : s.sock.isNone = false)
    (hconf : conf = true → ∀ x ∈ s.out, x.mid = mid → x.state.counted = true) :
    Tr (StepR conf cl rs) s (s.doOnPublish mid).1 := by
  unfold doOnPublish
  dsimp only
  split
  · exact ((FrQ.emit s rfl).trans (FrQ.emit _ rfl)).step
  rename_i m hm
  -- `X`: callbacks made, message removed, its MQTTMessageInfo completed
  generalize hX : S.emit (S.setInfo _ _ _) _ = X
  have hl : X.log = s.log ++ [.onPublish mid, .completed m.info mid, .infoDone m.info rcSuccess] := by
    rw [← hX]; simp only [emit_log, setInfo, List.append_assoc]; rfl
  have hv : view X = { view s with out := s.out.filter (fun x => decide (x.mid ≠ mid)) } := by
    rw [← hX]
    simp only [view, setInfo, emit_cfg, emit_out, emit_inflight, emit_infos, emit_proto, emit_lastMid, List.length_modify]
  have hsock : X.sock.isNone = false := by rw [← hs, ← hX]; simp only [emit_sock, setInfo]
  clear hX
  -- `X4` (view `v1`): counter updated; then the release loop may run
  obtain ⟨v1, hv1⟩ : ∃ v1 : V, v1 = { view s with out := s.out.filter (fun x => decide (x.mid ≠ mid)),
                                                  inflight := if m.qos > 0 then s.inflight - 1 else s.inflight } :=
    ⟨_, rfl⟩
  have fin : ∀ X4 s' : S, view X4 = v1 → X4.log = X.log → Tr (Star Release) X4 s' →
      (s.cfg.maxInflight > 0 → m.qos > 0 → (∀ x ∈ s.out, x.qos = 1 ∨ x.qos = 2) → Complete (view X4) (view s')) →
      Tr (StepR conf cl rs) s s' := by
    intro X4 s' hv4 h4 hst hc
    have hp : Pre s X4 := Pre.of_append (h4.trans hl)
    have hq0 : qpubs s X4 = [] := by rw [qpubs, evsOf_append (h4.trans hl)]; rfl
    exact ⟨hp.trans hst.1,
      StepR.ack mid ⟨m, _, hm, hv4.trans hv1, hconf, by rw [qpubs_trans hp hst.1, hq0]; exact hst.2, hc⟩⟩
  by_cases hq : m.qos > 0
  · rw [if_pos hq]
    have hv4 : view { X with inflight := X.inflight - 1 } = v1 := by
      show ({ view X with inflight := (view X).inflight - 1 } : V) = _
      rw [hv1, if_pos hq, hv]; rfl
    have hout : X.out = s.out.filter (fun x => decide (x.mid ≠ mid)) := congrArg V.out hv
    by_cases hN : X.cfg.maxInflight > 0
    · rw [if_pos hN]
      have hu := updateInflight_spec { X with inflight := X.inflight - 1 } (X.out.length + 1) 0
      split <;> exact fin _ _ hv4 rfl hu.1 fun _ _ hqos =>
        hu.2 hsock (fun x hx => hqos x (List.mem_filter.1 (hout ▸ hx)).1) (fun j x hj => absurd hj (Nat.not_lt_zero j))
          (Nat.lt_succ_self _)
    · rw [if_neg hN]
      exact fin _ _ hv4 rfl (Tr.star_refl (FrQ.refl _)) fun hN' => absurd (congrArg (·.cfg.maxInflight) hv ▸ hN') hN
  · rw [if_neg hq]
    exact fin X X (by rw [hv1, if_neg hq]; exact hv) rfl (Tr.star_refl (FrQ.refl X)) fun _ h => absurd h hq

theorem handlePubackcomp_tr (s : S) (mid : Nat) (hs : s.sock.isNone = false)
    (hconf : conf = true → ∀ x ∈ s.out, x.mid = mid → x.state.counted = true) :
    Tr (StepR conf cl rs) s (s.handlePubackcomp mid).1 := by
  unfold handlePubackcomp
  split
  · exact doOnPublish_tr s mid hs hconf
  · exact (FrQ.refl s).step

theorem handlePubrec_tr (s : S) (mid : Nat)
    (hconf : conf = true → ∀ x ∈ s.out, x.mid = mid → x.qos = 2 ∧ (x.state = .waitPubrec ∨ x.state = .waitPubcomp)) :
    Tr (StepR conf cl rs) s (s.handlePubrec mid).1 := by
  fun_cases handlePubrec s mid
  case case1 h s1 => exact Tr.of_upd (sendPubrel_fr s1 mid true).frq rfl (StepR.pubrec mid ⟨rfl, rfl, hconf⟩)
  case case2 h => exact (FrQ.refl s).step

theorem Fr.ccs (h : Fr s s') : s'.checkCleanSession = s.checkCleanSession := by
  obtain ⟨_, _, a1, a2, _, _, a5, _⟩ := h
  simp only [checkCleanSession, a1, a2, a5]

/-- `_messages_reconnect_reset()` and `on_pre_connect`, after steps that leave the session data alone -/
theorem reset_tr {X : S} (f : Fr s X) : Tr (StepR conf s.checkCleanSession rs) s
    (X.messagesReconnectResetOut.messagesReconnectResetIn.emit .onPreConnect) := by
  have h : Tr (StepR conf X.checkCleanSession rs) X X.messagesReconnectResetOut :=
    ⟨Pre.refl X, StepR.reset ⟨rfl, qpubs_self X⟩⟩
  rw [← f.ccs]
  exact Tr.frame_left f.frq
    (Tr.frame_right (Tr.frame_right h (messagesReconnectResetIn_fr _).frq) (FrQ.emit _ rfl))

theorem reconnect_tr (s : S) (ok : Bool) : Tr (StepR conf s.checkCleanSession rs) s (s.reconnect ok).1 := by
  unfold reconnect
  split
  · exact (FrQ.refl s).step
  extract_lets a1 a2 a3 a4 a5 a6 c a7 a8 a9
  have f3 : Fr s a3 :=
    frame.failQueuedQos0 lowEv_not_q a2.outq (frame.sockClose lowEv_not_q true (frame.upd (s' := a1) ⟨rfl, rfl, rfl⟩))
  have t : Tr (StepR conf s.checkCleanSession rs) s a6 := reset_tr (frame.thenUpd f3 (s' := a4) ⟨rfl, rfl, rfl⟩)
  clear_value a6
  split
  · exact t
  · have f8 : Fr a6 a8 := FrP.ofLog [.sopen c] rfl (List.forall_mem_singleton.2 rfl) rfl rfl rfl rfl rfl rfl rfl
    have f9 : Fr a6 a9 := SessFrame.ite_state (SessFrame.ite_state (frame.thenEmit f8 rfl) (frame.thenEmit f8 rfl)) f8
    split
    rename_i s1 rc hx
    rw [(eq_fst_snd hx).1]
    exact t.frame_right (frame.sendConnect lowEv_not_q f9).frq

/-- only the size guards of `_send_publish` (remaining length, topic length, packet id) can make it fail -/
theorem encPublish_ok (proto mid : Nat) (topic payload : Bytes) (qos : Nat) (retain dup : Bool)
    (ht : topic.length ≤ 65535) (hm : mid ≤ 65535)
    (hrl : publishRemLen topic.length payload.length qos (if proto = 5 then 1 else 0) ≤ 268435455) :
    ∃ b, encPublish proto mid topic payload qos retain dup none = .ok b := by
  obtain ⟨pp, hpp, hlen⟩ : ∃ pp, packProps proto none = .ok pp ∧ pp.length = if proto = 5 then 1 else 0 := by
    unfold packProps
    by_cases h5 : proto = 5
    · rw [if_pos h5, if_pos h5]; exact ⟨_, rfl, rfl⟩
    · rw [if_neg h5, if_neg h5]; exact ⟨_, rfl, rfl⟩
  have htb : str16 topic = .ok _ := (PropsLemmas.str16_eq topic).trans (if_pos ht)
  have hmb := PropsLemmas.packU16_ok hm
  have hq : ((qos : Int) > 0) ↔ qos > 0 := Int.natCast_pos
  obtain ⟨rb, hrb⟩ : ∃ b, remLenEncChecked (2 + topic.length + payload.length + (if qos > 0 then 2 else 0) + pp.length) =
      .ok b := by
    unfold remLenEncChecked
    rw [if_neg]
    · exact ⟨_, rfl⟩
    · simp only [Gen.rlGuardCmp, Gen.rlGuardMax, Cmp.evalNat, decide_eq_true_eq, Nat.not_lt]
      simp only [publishRemLen, hq] at hrl
      rw [hlen]; exact hrl
  simp only [encPublish, hpp, hrb, htb, hmb, bind, Except.bind, pure, Except.pure]
  by_cases hq0 : qos > 0
  · rw [if_pos hq0]; exact ⟨_, rfl⟩
  · rw [if_neg hq0]; exact ⟨_, rfl⟩

/-- `publish()` stored nothing (QoS 0, or refused for queue reasons) -/
theorem RAdd2.same (hL : L = [] ∨ ∃ c mid, L = [.qPublish c v.ninfos mid 0 false]) :
    RAdd2 v { v with ninfos := v.ninfos + 1 } L :=
  ⟨⟨rfl, rfl, Or.inl ⟨rfl, rfl, hL⟩⟩, rfl, rfl, fun _ m h => by simp at h⟩

theorem RAdd2.store {m : OutMsg} {k : Int}
    (hm : m.info = v.ninfos ∧ m.dup = false ∧ (m.qos = 1 ∨ m.qos = 2) ∧ ∀ x ∈ v.out, x.mid ≠ m.mid)
    (hL : L = [] ∨ ∃ c, L = [.qPublish c m.info m.mid m.qos false])
    (hcase : (m.state = (if m.qos = 1 then .waitPuback else .waitPubrec) ∧
            (v.cfg.maxInflight = 0 ∨ v.inflight < v.cfg.maxInflight) ∧ k = v.inflight + 1) ∨
        (m.state = .publish ∧ k = v.inflight) ∨
        (m.state = .queued ∧ v.cfg.maxInflight > 0 ∧ v.inflight ≥ v.cfg.maxInflight ∧ k = v.inflight ∧ L = []))
    (hx : v.mok → Enc v.p5 m ∧
      ((m.state = .waitPuback ∨ m.state = .waitPubrec) → ∃ c, L = [.qPublish c m.info m.mid m.qos false])) :
    RAdd2 v { v with ninfos := v.ninfos + 1, out := v.out ++ [m], inflight := k } L := by
  refine ⟨⟨rfl, rfl, Or.inr ⟨m, hm.1, hm.2.1, hm.2.2.1, hm.2.2.2, rfl, hL, hcase⟩⟩, rfl, rfl, fun hk m' h => ?_⟩
  have : m = m' := by simpa using h
  exact this ▸ hx hk

/-- an equation of propositions, for `simp only` to rewrite the `mok` of a view -/
theorem midNext_le (l : Nat) : (midNext l ≤ 65535) = (l ≤ 65535) := by
  unfold midNext
  simp only [Gen.midIncr, Gen.midWrapCmp, Gen.midWrap, Gen.midReset, Cmp.evalNat]
  apply propext
  by_cases h : l + 1 = 65536 <;> simp [h] <;> omega

theorem view_publish {Y : S} (hcfg : Y.cfg = s.cfg) (hproto : Y.proto = s.proto)
    (hmid : Y.lastMid = midNext s.lastMid) (hinfos : Y.infos.length = s.infos.length + 1) :
    view Y = { view s with ninfos := (view s).ninfos + 1, out := Y.out, inflight := Y.inflight } := by
  simp only [view, hcfg, hproto, hmid, hinfos, midNext_le]

/-- the epilogue of `publish()` -/
theorem Tr.setInfo_ret {Y : S} {j f rc m} (h : Tr R s Y) : Tr R s ((Y.setInfo j f).emit (.ret rc m)) :=
  h.frame_right (FrQ.trans (s1 := Y.setInfo j f) (FrQ.of_eq rfl (by simp [view, setInfo])) emit_ret_frq)

theorem publish_msg {qos : Nat} {topic payload : Bytes} {retain : Bool}
    (hv : publishCheckFull s.proto topic qos .bytes payload.length (if s.proto = 5 then 1 else 0) = none)
    (hq : ¬ qos = 0) (hfresh : ¬ (s.out.any fun x => decide (x.mid = midNext s.lastMid)) = true) (st : MS) :
    let m : OutMsg := { mid := midNext s.lastMid, qos := qos, state := st, dup := false, retain := retain,
                        topic := topic, payload := payload, info := s.infos.length }
    (m.info = (view s).ninfos ∧ m.dup = false ∧ (m.qos = 1 ∨ m.qos = 2) ∧ ∀ x ∈ (view s).out, x.mid ≠ m.mid) ∧
    ((view s).mok → Enc (view s).p5 m) := by
  obtain ⟨ht, _, hq2, hrl⟩ := publishCheckFull_none hv
  refine ⟨⟨rfl, rfl, ?_, fun x hx hmid => hfresh (List.any_eq_true.2 ⟨x, hx, decide_eq_true hmid⟩)⟩,
    fun hk proto' dup hp => encPublish_ok proto' _ topic payload qos retain dup ht ((midNext_le _).mpr hk) ?_⟩
  · show qos = 1 ∨ qos = 2
    omega
  · have hp' : proto' = 5 ↔ s.proto = 5 := hp
    simp only [hp']; exact hrl

theorem publish_tr (s : S) (qos : Nat) (topic payload : Bytes) (retain : Bool) :
    Tr RAdd2 s (s.publish qos topic payload retain) ∨ FrQ s (s.publish qos topic payload retain) := by
  fun_cases publish s qos topic payload retain
  case case1 => exact Or.inr (FrQ.emit s rfl)
  case case2 => exact Or.inr (FrQ.emit s rfl)
  case case3 hv mid s0 idx s1 hq s' rc hx =>
    refine Or.inl (Tr.setInfo_ret ?_)
    have hs' := (eq_fst_snd hx).1
    refine sendPublish_tr (X := s1) rfl (by rw [hs']) ?_
    rw [hs', sendPublish_view, view_publish (s := s) (Y := s1) rfl rfl rfl List.length_append]
    refine RAdd2.same ?_
    rcases sendPublish_q s1 mid topic payload 0 retain false (some idx) true idx with ⟨h, _⟩ | ⟨c, h⟩
    · exact Or.inl h
    · exact Or.inr ⟨c, mid, h⟩
  case case4 hv mid s0 idx s1 _ _ | case5 hv mid s0 idx s1 _ _ _ =>
    -- refused (queue full, or packet id still in use): only the MQTTMessageInfo is allocated
    refine Or.inl (Tr.setInfo_ret (Y := s1) ⟨Pre.refl s, ?_⟩)
    rw [view_publish (s := s) (Y := s1) rfl rfl rfl List.length_append]
    exact RAdd2.same (Or.inl (qpubs_self s))
  case case6 hv mid s0 idx s1 hq hnref hfresh m0 hwin m s2 s3 rc hx s4 =>
    refine Or.inl (Tr.setInfo_ret ?_)
    have hmsg := fun st => publish_msg (retain := retain) hv hq hfresh st
    have hm := hmsg m.state
    obtain ⟨h3, hrc⟩ := eq_fst_snd hx
    obtain ⟨_, e0, e1, e2, e3, e4, _, e6, _⟩ := sendPublish_same s2 mid topic payload qos retain false (some idx) true (some idx)
    rw [← h3] at e0 e1 e2 e3 e4 e6
    have hsp := sendPublish_q s2 mid topic payload qos retain false (some idx) true idx
    have hL := hsp.imp_left And.left
    by_cases hnc : rc = rcNoConn
    · -- nothing was sent: the message stays stored, to be sent after the next CONNACK
      have h4 : s4 = { s3 with inflight := s3.inflight - 1, out := s3.out.map _ } := if_pos hnc
      refine sendPublish_tr (X := s2) rfl (by rw [h4, h3]) ?_
      rw [h4, view_publish (s := s) (Y := { s3 with inflight := s3.inflight - 1, out := s3.out.map _ }) e1 e2 e0
        (e6.trans List.length_append)]
      have hout : s3.out.map (fun (x : OutMsg) => if x.mid = mid then { x with state := .publish } else x) =
          s.out ++ [{ m with state := .publish }] := by
        rw [e3]
        have hfr : ∀ x ∈ s.out, x.mid ≠ mid := hm.1.2.2.2
        show (s.out ++ [m]).map _ = _
        rw [List.map_append, (List.map_congr_left fun x hx' => if_neg (hfr x hx')).trans (List.map_id' _)]
        exact congrArg _ (congrArg (· :: []) (if_pos rfl))
      rw [hout]
      refine RAdd2.store (hmsg .publish).1 hL (Or.inr (Or.inl ⟨rfl, ?_⟩))
        fun hk => ⟨(hmsg .publish).2 hk, fun h => by simp at h⟩
      rw [e4]; exact Int.add_sub_cancel ..
    · have h4 : s4 = s3 := if_neg hnc
      refine sendPublish_tr (X := s2) rfl (by rw [h4, h3]) ?_
      rw [h4, view_publish (s := s) e1 e2 e0 (e6.trans List.length_append), e3, e4]
      refine RAdd2.store hm.1 hL (Or.inl ⟨rfl, hwin, rfl⟩) fun hk => ⟨hm.2 hk, fun _ => ?_⟩
      -- the socket was open (else NO_CONN) and the packet can be encoded: it was handed over
      rcases hsp with ⟨_, hn | ⟨e, he⟩⟩ | h
      · exact absurd (hrc.trans (congrArg Prod.snd (sendPublish_noconn s2 hn ..))) hnc
      · obtain ⟨b, hb⟩ := hm.2 hk s2.proto false Iff.rfl
        rw [he] at hb; cases hb
      · exact h
  case case7 hv mid s0 idx s1 hq hnref hfresh m0 hwin s2 =>
    refine Or.inl (Tr.setInfo_ret (Y := s2) ⟨Pre.refl s, ?_⟩)
    rw [view_publish (s := s) (Y := s2) rfl rfl rfl List.length_append]
    have hm := publish_msg (retain := retain) hv hq hfresh .queued
    have hwin' : ¬ (s.cfg.maxInflight = 0 ∨ s.inflight < s.cfg.maxInflight) := hwin
    refine RAdd2.store hm.1 (Or.inl (qpubs_self s)) (Or.inr (Or.inr ⟨rfl, ?_, ?_, rfl, qpubs_self s⟩))
      fun hk => ⟨hm.2 hk, fun h => by simp at h⟩
    · exact Nat.pos_of_ne_zero fun h => hwin' (Or.inl h)
    · exact Int.not_lt.1 fun h => hwin' (Or.inr h)

theorem connect_tr (s : S) (ok : Bool) :
    Tr (StepR conf (if s.proto = 5 then { s with firstConnect := true } else s).checkCleanSession rs) s
      (s.connect ok).1 := by
  unfold connect
  simp only []
  generalize hX : (if s.proto = 5 then { s with firstConnect := true } else s) = X
  have f0 : FrQ s X := by
    rw [← hX]; exact SessFrame.ite_state (FrQ.of_eq rfl rfl) (FrQ.refl s)
  rw [← (connectAsync_fr X).ccs]
  exact Tr.frame_left (f0.trans (connectAsync_fr X).frq) (reconnect_tr _ ok)

/-- the fallback of `_handle_connack` from MQTT 3.1.1 to 3.1 -/
theorem proto3_frq (s : S) (h : s.proto = 4) :
    FrQ s { s with proto := 3 } ∧ ({ s with proto := 3 } : S).checkCleanSession = s.checkCleanSession :=
  ⟨FrQ.of_eq rfl (by simp [view, h]), by simp [checkCleanSession, h]⟩

/-- a step that may retransmit: the one made by an accepting CONNACK -/
def opRs : Op → Bool
  | .rx (.pkt (.connack _ 0)) _ => true
  | _ => false

theorem handleConnack_tr (s : S) (sp : Bool) (result : Nat) (ok : Bool) :
    Tr (StepR conf s.checkCleanSession (opRs (.rx (.pkt (.connack sp result)) ok))) s (s.handleConnack sp result ok).1 := by
  fun_cases handleConnack s sp result ok
  case case1 | case2 => exact (FrQ.refl s).step
  case case3 pre hpre h41 hrof s1 s2 hx =>
    obtain ⟨f, hc⟩ := proto3_frq s h41.1
    rw [← hc, (eq_fst_snd hx).1]
    exact Tr.frame_right (Tr.frame_left f (reconnect_tr s1 ok)) (FrQ.emit _ rfl)
  case case4 pre hpre h41 hrof s1 hne =>
    obtain ⟨f, hc⟩ := proto3_frq s h41.1
    rw [← hc]
    exact Tr.frame_left f (reconnect_tr s1 ok)
  case case5 pre hpre h41 s1 shown s3 hres s' rc hx =>
    have f : FrQ s s3 := FrQ.trans (s1 := s1) (SessFrame.ite_state (FrQ.of_eq rfl rfl) (FrQ.refl s)) (FrQ.emit s1 rfl)
    subst hres
    rw [(eq_fst_snd hx).1]
    exact Tr.frame_left f ((connackResend_tr _ _ _ _).mono fun _ _ _ => StepR.resend rfl)
  case case6 pre hpre h41 s1 shown s3 hres _ | case7 pre hpre h41 s1 shown s3 hres _ =>
    exact (FrQ.trans (s1 := s1) (SessFrame.ite_state (FrQ.of_eq rfl rfl) (FrQ.refl s)) (FrQ.emit s1 rfl)).step

/-- a conforming PUBACK / PUBCOMP names only messages in the waiting state `st` -/
theorem conf_counted {mid q : Nat} {st : MS} (hst : st.counted = true)
    (h : s.out.all (fun m => m.mid != mid || (m.qos == q && m.state == st)) = true) :
    ∀ x ∈ s.out, x.mid = mid → x.state.counted = true := by
  intro x hx hm
  have := List.all_eq_true.1 h x hx
  simp [hm] at this
  rw [this.2]; exact hst

theorem conf_pubrec (s : S) (mid : Nat) (h : s.conformingRx (.pubrec mid) = true) :
    ∀ x ∈ s.out, x.mid = mid → x.qos = 2 ∧ (x.state = .waitPubrec ∨ x.state = .waitPubcomp) := by
  intro x hx hm
  simp only [conformingRx, List.all_eq_true] at h
  have := h x hx
  simp [hm] at this
  exact this

theorem packetHandle_tr (s : S) (p : RxPkt) (ok : Bool) (hs : s.sock.isNone = false) :
    Tr (StepR (s.conformingRx p) s.checkCleanSession (opRs (.rx (.pkt p) ok))) s (s.packetHandle p ok).1 := by
  cases p with
  | connack sp rc => exact handleConnack_tr s sp rc ok
  | publish m => exact (handlePublish_fr s m).step
  | puback mid => exact handlePubackcomp_tr s mid hs (conf_counted (st := .waitPuback) rfl)
  | pubcomp mid => exact handlePubackcomp_tr s mid hs (conf_counted (st := .waitPubcomp) rfl)
  | pubrec mid => exact handlePubrec_tr s mid (conf_pubrec s mid)
  | pubrel mid => exact (handlePubrel_fr s mid).step
  | suback mid code => exact (frame.emit s _ rfl).step
  | unsuback mid => exact (frame.emit s _ rfl).step
  | pingreq => exact (packetQueue_fr s _ _).step
  | pingresp => exact Fr.step (frame.upd ⟨rfl, rfl, rfl⟩)
  | disconnect r =>
    simp only [packetHandle]
    split
    · exact (handleDisconnect_fr s r).step
    · exact (frame.refl s).step
  | badcmd => exact (frame.refl s).step
  | malformed => exact (frame.refl s).step

theorem loopRead_tr (s : S) (item : RxItem) (ok : Bool) :
    Tr (StepR (opConforming s (.rx item ok)) s.checkCleanSession (opRs (.rx item ok))) s (s.loopRead item ok).1 := by
  fun_cases loopRead s item ok
  case case1 | case2 => exact (frame.refl s).step
  case case3 c hc s' rc hx | case4 c hc s' rc hx =>
    rw [(eq_fst_snd hx).1]; exact (loopRcHandle_fr s _).step
  case case5 c hc p s' n hx =>
    rw [(eq_fst_snd hx).1]; exact packetHandle_tr s p ok (by simp [hc])
  case case6 c hc p s1 rc1 hx s2 hrc s' rc hx2 =>
    have g : Fr s1 s' := by
      rw [(eq_fst_snd hx2).1]; exact frame.loopRcHandle lowEv_not_q rc1 (frame.upd (s' := s2) ⟨rfl, rfl, rfl⟩)
    exact Tr.frame_right ((eq_fst_snd hx).1 ▸ packetHandle_tr s p ok (by simp [hc])) g.frq
  case case7 c hc p s1 s2 hx _ | case8 c hc p s1 _ hx s2 _ _ _ | case9 c hc p s1 _ hx s2 _ _ _ _ =>
    have f : Fr s1 s2 := frame.upd ⟨rfl, rfl, rfl⟩
    exact Tr.frame_right ((eq_fst_snd hx).1 ▸ packetHandle_tr s p ok (by simp [hc])) f.frq

/-- the tail of `subscribe()`, `unsubscribe()`, `disconnect()` -/
theorem queue_ret_frq {X : S} {pkt : OutPkt} {m : Option Nat} (f : FrQ s X) :
    FrQ s ((X.packetQueue pkt).1.emit (.ret (X.packetQueue pkt).2 m)) :=
  f.trans ((packetQueue_fr X pkt true).frq.trans (FrQ.emit _ rfl))

theorem lastMid_frq (s : S) : FrQ s { s with lastMid := midNext s.lastMid } :=
  FrQ.of_eq rfl (by simp only [view, midNext_le])

theorem subscribe_frq (s : S) (t q) : FrQ s (s.subscribe t q) := by
  unfold subscribe
  refine SessFrame.ite_state (FrQ.emit s rfl) ?_
  refine SessFrame.ite_state (FrQ.emit s rfl) ?_
  refine SessFrame.ite_state (FrQ.emit s rfl) ?_
  split
  · exact FrQ.emit s rfl
  dsimp only
  split
  · exact (lastMid_frq s).trans (FrQ.emit _ rfl)
  · exact queue_ret_frq (lastMid_frq s)

theorem unsubscribe_frq (s : S) (t) : FrQ s (s.unsubscribe t) := by
  unfold unsubscribe
  refine SessFrame.ite_state (FrQ.emit s rfl) ?_
  split
  · exact FrQ.emit s rfl
  dsimp only
  split
  · exact (lastMid_frq s).trans (FrQ.emit _ rfl)
  · exact queue_ret_frq (lastMid_frq s)

theorem disconnect_frq (s : S) : FrQ s s.disconnect := by
  have f : ∀ c d, FrQ s { s with cstate := c, discCalled := d } := fun _ _ => FrQ.of_eq rfl rfl
  unfold disconnect
  split
  · exact (f _ _).trans (FrQ.emit _ rfl)
  dsimp only
  split
  · exact (f _ _).trans (FrQ.emit _ rfl)
  · exact queue_ret_frq (f _ _)

theorem ack_frq (s : S) (m q) : FrQ s (s.ack m q) := by
  unfold ack
  refine SessFrame.ite_state ?_ emit_ret_frq
  refine SessFrame.ite_state ((sendCmdMid_fr s _ m _).frq.trans emit_ret_frq) ?_
  exact SessFrame.ite_state ((sendCmdMid_fr s _ m _).frq.trans emit_ret_frq) emit_ret_frq

theorem emit_hres_frq (s : S) (r : HRes) : FrQ s (s.emit (hresEv r)) :=
  FrQ.emit s (by cases r <;> rfl)

/-- the value `_check_clean_session()` has when `op` resets the session -/
def cleanAt (s : S) : Op → Bool
  | .connect _ => (if s.proto = 5 then { s with firstConnect := true } else s).checkCleanSession
  | _ => s.checkCleanSession

theorem step_tr (s : S) (op : Op) : Tr (StepR (opConforming s op) (cleanAt s op) (opRs op)) s (s.step op) := by
  cases op with
  | connect ok => exact Tr.frame_right (connect_tr s ok) (emit_hres_frq _ _)
  | reconnect ok => exact Tr.frame_right (reconnect_tr s ok) (emit_hres_frq _ _)
  | connectAsync => exact (connectAsync_fr s).step
  | rx item ok => exact Tr.frame_right (loopRead_tr s item ok) (emit_hres_frq _ _)
  | publish q t p r =>
    rcases publish_tr s q t p r with h | h
    · exact h.mono fun _ _ _ h => StepR.add h.1 h.2
    · exact h.step
  | subscribe t q => exact (subscribe_frq s t q).step
  | unsubscribe t => exact (unsubscribe_frq s t).step
  | disconnect => exact (disconnect_frq s).step
  | loopWrite => exact ((loopWrite_fr s).frq.trans emit_ret_frq).step
  | loopMisc => exact ((loopMisc_fr s).frq.trans emit_ret_frq).step
  | tick ms => exact (FrQ.of_eq rfl rfl).step
  | send sc => exact (FrQ.of_eq rfl rfl).step
  | ack m q => exact (ack_frq s m q).step
  | raiseOnMessage n => exact (FrQ.of_eq rfl rfl).step

end Paho.FlowLemmas
