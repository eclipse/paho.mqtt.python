/-
Exact descriptions of the inbound handlers (`_send_command_with_mid`, `_handle_pubrel`, `_handle_publish`)
and of the `rx` step, used by the C03 proofs; the QoS of the stored outgoing messages stays at most 2.
-/
import PahoProofs.Lemmas.InHandlers
import PahoProofs.Lemmas.SessionDefs
namespace Paho.InLemmas
open Paho Paho.S
open Paho.SessFrame (ite_fst)

variable {B : Bytes → Prop} {k : Prop} {s : S}

abbrev NoMsg : Ev → Prop := PB (fun _ => True) False

theorem sendCmdMid_inm (cmd mid : Nat) (d : Bool) : (s.sendCmdMid cmd mid d).1.inm = s.inm :=
  (sendCmdMid_fr (B := fun _ => True) (k := True) Fr.refl fun _ _ => trivial).inm

theorem sendCmdMid_first (cmd mid : Nat) (d : Bool) {c : Nat} (hs : s.sock = some c) (hmid : mid ≤ 65535) :
    ∃ evs, (s.sendCmdMid cmd mid d).1.log
        = s.log ++ Ev.queued c [b8 cmd, 2, b8 (mid / 256), b8 (mid % 256)] :: evs ∧ ∀ e ∈ evs, NoMsg e := by
  unfold sendCmdMid
  rw [encCmdMid_ok cmd mid hmid]
  exact packetQueue_first _ d hs

theorem step_rx_fr (p : RxPkt) (ok : Bool) {c : Nat} (hs : s.sock = some c) :
    Fr (PB B k) (s.packetHandle p ok).1 (s.step (.rx (.pkt p) ok)) :=
  Fr.emit (loopRead_tail p ok hs) (PB_hresEv _)

theorem step_rx_none (item : RxItem) (ok : Bool) (hs : s.sock = none) :
    s.step (.rx item ok) = s.emit (.ret rcNoConn none) := by
  simp only [S.step, loopRead, hs]
  rfl

/-- PUBREL: the stored message (if any) is delivered, first and once, and removed; then PUBCOMP, unless manual_ack
is on or the callback's exception propagates -/
theorem step_pubrel_spec (mid : Nat) (ok : Bool) {c : Nat} (hs : s.sock = some c) :
    ∃ rest, newEvents s (.rx (.pkt (.pubrel mid)) ok)
        = (s.inm.find? (fun x => decide (x.mid = mid))).toList.map Ev.onMessage ++ rest
      ∧ (∀ e ∈ rest, NoMsg e)
      ∧ (s.step (.rx (.pkt (.pubrel mid)) ok)).inm = s.inm.filter (fun x => decide (x.mid ≠ mid))
      ∧ (mid ≤ 65535 → s.cfg.manualAck = false → (s.raiseOnMessage = 0 ∨ s.cfg.suppress = true) →
          Ev.queued c [b8 0x70, 2, b8 (mid / 256), b8 (mid % 256)] ∈ rest) := by
  have htl : Fr NoMsg (s.handlePubrel mid).1 (s.step (.rx (.pkt (.pubrel mid)) ok)) := step_rx_fr (.pubrel mid) ok hs
  unfold handlePubrel at htl
  split at htl
  rename_i s1 raised hp
  -- first half of `_handle_pubrel`: look the message up, remove it, deliver it
  have head : s1.log = s.log ++ (s.inm.find? (fun x => decide (x.mid = mid))).toList.map Ev.onMessage
      ∧ s1.inm = s.inm.filter (fun x => decide (x.mid ≠ mid)) ∧ s1.cfg = s.cfg ∧ s1.sock = s.sock
      ∧ (s.raiseOnMessage = 0 ∨ s.cfg.suppress = true → raised = false) := by
    split at hp
    · rename_i m hm
      rw [handleOnMessage_eq] at hp
      cases hp
      refine ⟨by rw [hm]; rfl, rfl, rfl, rfl, ?_⟩
      rintro (h | h) <;> simp [h]
    · rename_i hm
      cases hp
      refine ⟨by rw [hm]; simp, (List.filter_eq_self.mpr fun x hx => ?_).symm, rfl, rfl, fun _ => rfl⟩
      simpa using List.find?_eq_none.mp hm x hx
  obtain ⟨hlog, hinm, hcfg, hsock, hr⟩ := head
  clear hp
  -- whatever follows the delivery is an exact frame without `on_message`
  generalize hres : (if raised = true then (s1, HRes.raised "RuntimeError")
    else if s1.cfg.manualAck = true then (s1, HRes.rc rcSuccess)
    else match s1.sendPubcomp mid with | (s, rc) => (s, HRes.rc rc)).1 = r at htl
  have hfr : Fr NoMsg s1 r := hres ▸ ite_fst Fr.refl (ite_fst Fr.refl (sendCmdMid_fr Fr.refl fun _ _ => trivial))
  obtain ⟨evs, he, hP⟩ := (hfr.trans htl).lg
  refine ⟨evs, newEvents_eq (by rw [he, hlog, List.append_assoc]), hP, (hfr.trans htl).inm.trans hinm, ?_⟩
  intro hmid hman hra
  rw [hr hra, if_neg Bool.false_ne_true, if_neg (by rw [hcfg, hman]; decide)] at hres
  obtain ⟨evs', he', _⟩ := sendCmdMid_first (s := s1) 0x70 mid true (hsock.trans hs) hmid
  obtain ⟨tl, htl, _⟩ := htl.lg
  rw [htl, show r.log = _ from hres ▸ he', List.append_assoc] at he
  rw [← List.append_cancel_left he]
  exact List.mem_cons_self

theorem topic_ok {m : InMsg} (ht : s.proto = 5 ∨ m.topic ≠ []) : ¬ (s.proto ≠ 5 ∧ m.topic.isEmpty = true) := by
  rintro ⟨h1, h2⟩
  rcases ht with h | h
  · exact h1 h
  · exact h (List.isEmpty_iff.mp h2)

theorem handlePublish_qos2 (m : InMsg) (hq : m.qos = 2) (ht : s.proto = 5 ∨ m.topic ≠ []) :
    (s.handlePublish m).1.log = (s.sendCmdMid 0x50 m.mid).1.log
    ∧ (s.handlePublish m).1.inm = storeIn s.inm m := by
  have ht' := topic_ok ht
  unfold handlePublish
  extract_lets m'
  have hm' : m' = m := if_neg (by omega)
  clear_value m'
  subst hm'
  rw [if_neg ht', if_neg (by omega), if_neg (by omega), if_pos hq]
  have hi := sendCmdMid_inm (s := s) 0x50 m'.mid true
  unfold sendPubrec
  generalize s.sendCmdMid 0x50 m'.mid true = r at hi ⊢
  obtain ⟨s1, rc⟩ := r
  dsimp only at hi ⊢
  rw [hi]
  exact ⟨rfl, rfl⟩

theorem handlePublish_qos1 (m : InMsg) (hq : m.qos = 1) (ht : s.proto = 5 ∨ m.topic ≠ []) :
    (s.handlePublish m).1 =
      if (decide (s.raiseOnMessage > 0) && !s.cfg.suppress) = true then (s.handleOnMessage m).1
      else if s.cfg.manualAck = true then (s.handleOnMessage m).1
      else ((s.handleOnMessage m).1.sendCmdMid 0x40 m.mid).1 := by
  have ht' := topic_ok ht
  unfold handlePublish
  extract_lets m'
  have hm' : m' = m := if_neg (by omega)
  clear_value m'
  subst hm'
  rw [if_neg ht', if_neg (by omega), if_pos hq, handleOnMessage_eq]
  dsimp only
  rw [apply_ite Prod.fst, apply_ite Prod.fst]
  rfl

theorem handlePublish_badtopic (m : InMsg) (ht : s.proto ≠ 5 ∧ m.topic.isEmpty = true) :
    (s.handlePublish m).1 = s := by
  unfold handlePublish
  extract_lets m'
  have hm' : m'.topic = m.topic := by
    unfold m'
    split <;> rfl
  rw [if_pos (by rw [hm']; exact ht)]

theorem step_qosOk (op : Op) (h : QosOk s.out) : QosOk (s.step op).out :=
  (step_fw (good_true fun _ hn => hn) h op fun _ _ _ _ _ => trivial).oq

theorem runFrom_qosOk (cfg : Cfg) (proto : Nat) (ops : List Op) : QosOk (runFrom cfg proto ops).out :=
  S.run_ind (P := fun s => QosOk s.out) (fun _ op h => step_qosOk op h) ops (fun _ h => nomatch h)

end Paho.InLemmas
