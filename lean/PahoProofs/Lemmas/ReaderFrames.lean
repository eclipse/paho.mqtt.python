/-
For C05 part 1: the byte-at-a-time automaton `feed` of ReaderFeed.lean computes the packet-at-a-time reference split of
the byte stream, `splitStream`.
-/
import PahoProofs.Lemmas.ReaderFeed

namespace Paho.ReaderLemmas
open Paho

theorem rl_suffix {k : Nat} {bs : Bytes} {m a n : Nat} {bs' : Bytes}
    (h : splitStream.rl k bs m a = some (some (n, bs'))) : bs' <:+ bs ∧ bs'.length < bs.length := by
  induction k generalizing bs m a with
  | zero => simp [splitStream.rl] at h
  | succ k ih =>
    cases bs with
    | nil => simp [splitStream.rl] at h
    | cons b bs =>
      simp only [splitStream.rl] at h
      split at h
      · simp only [Option.some.injEq, Prod.mk.injEq] at h
        obtain ⟨_, rfl⟩ := h
        exact ⟨List.suffix_cons b _, by simp⟩
      · obtain ⟨h1, h2⟩ := ih h
        exact ⟨h1.trans (List.suffix_cons b bs), Nat.lt_succ_of_lt h2⟩

theorem feed_body_all {r : RState} {bs : Bytes} {acc : List (Nat × Bytes)}
    (hc : r.command ≠ 0) (hh : r.haveRemaining = true) :
    Ref r bs acc =
      if r.toProcess ≤ bs.length then
        feed {} (bs.drop r.toProcess) (acc ++ [(r.command, r.packet ++ bs.take r.toProcess)])
      else (acc, .ok) := by
  by_cases hl : r.toProcess ≤ bs.length
  · have hlen : (bs.take r.toProcess).length = r.toProcess := List.length_take_of_le hl
    have hf : full { r with toProcess := r.toProcess - (bs.take r.toProcess).length,
                            packet := r.packet ++ bs.take r.toProcess } :=
      ⟨hh, by show r.toProcess - (bs.take r.toProcess).length = 0; rw [hlen, Nat.sub_self]⟩
    rw [if_pos hl]
    conv => lhs; rw [← List.take_append_drop r.toProcess bs]
    rw [Ref_body_chunk hc hh (Nat.le_of_eq hlen), Ref_full hf]
  · have hnf : ¬ full { r with toProcess := r.toProcess - bs.length, packet := r.packet ++ bs } :=
      fun h => Nat.sub_ne_zero_of_lt (Nat.lt_of_not_le hl) h.2
    rw [if_neg hl]
    conv => lhs; rw [← List.append_nil bs]
    rw [Ref_body_chunk hc hh (Nat.le_of_lt (Nat.lt_of_not_le hl)), Ref_not_full hnf]
    rfl

/-- the packets from the length field on: the automaton decodes the length as `splitStream.rl` does and then takes that
many bytes; where `rl` stops (a fifth length byte, or the stream ends inside the packet) no further packet comes -/
theorem feed_len (acc : List (Nat × Bytes)) (k : Nat) (r : RState) (bs : Bytes)
    (hc : r.command ≠ 0) (hh : r.haveRemaining = false) (hk : r.remCount + k = 4) :
    (feed r bs acc).1 =
      match splitStream.rl k bs r.remMult r.remLen with
      | some (some (n, bs')) =>
        if n ≤ bs'.length then (feed {} (bs'.drop n) (acc ++ [(r.command, r.packet ++ bs'.take n)])).1 else acc
      | _ => acc := by
  induction k generalizing r bs with
  | zero =>
    simp only [splitStream.rl]
    cases bs with
    | nil => rfl
    | cons b bs => rw [feed_len_step hc hh, if_pos (by rw [show r.remCount = 4 from hk]; decide)]
  | succ k ih =>
    cases bs with
    | nil => rfl
    | cons b bs =>
      have h4 : ¬ (r.remCount + 1 > 4) := by omega
      simp only [splitStream.rl]
      rw [feed_len_step hc hh, if_neg h4]
      by_cases hb : b.toNat &&& 128 = 0
      · rw [if_pos hb, if_pos hb,
          feed_body_all (r := { lenStep r b with haveRemaining := true, toProcess := (lenStep r b).remLen }) hc rfl]
        exact apply_ite Prod.fst _ _ _
      · rw [if_neg hb, if_neg hb]
        exact ih (lenStep r b) bs hc hh (by rw [← hk]; exact Nat.add_right_comm _ 1 k)

/-- the automaton computes the reference split (as long as no packet starts with a zero byte: the reference
split carries on past such a packet, the automaton stops there with a protocol error, see `feed_cmd`) -/
theorem feed_frames (fuel : Nat) (bs : Bytes) (acc : List (Nat × Bytes))
    (hl : bs.length < fuel) (hok : cmdsNonzero fuel bs = true) :
    (feed {} bs acc).1 = acc ++ (splitStream fuel bs).1 := by
  induction fuel generalizing bs acc with
  | zero => exact absurd hl (Nat.not_lt_zero _)
  | succ fuel ih =>
    cases bs with
    | nil => simp [feed, splitStream]
    | cons cmd rest =>
      simp only [cmdsNonzero, Bool.and_eq_true] at hok
      obtain ⟨hcmd, hok⟩ := hok
      have hc : cmd.toNat ≠ 0 := toNat_ne_zero (bne_iff_ne.mp hcmd)
      rw [feed_cmd rfl, if_neg hc]
      simp only [splitStream]
      have hlen := feed_len acc 4 { command := cmd.toNat } rest hc rfl rfl
      simp only at hlen
      rw [hlen]
      rcases hd : splitStream.rl 4 rest 1 0 with _ | _ | ⟨n, bs'⟩ <;> rw [hd] at hok
      · simp
      · simp
      · simp only at hok ⊢
        by_cases hn : n ≤ bs'.length
        · rw [if_pos hn] at hok ⊢
          rw [if_pos hn, ih _ _ (by
            rw [List.length_drop]
            exact Nat.lt_of_le_of_lt (Nat.sub_le _ _)
              (Nat.lt_trans (rl_suffix hd).2 (Nat.lt_of_succ_lt_succ hl))) hok]
          simp
        · rw [if_neg hn, if_neg hn]
          simp

theorem cmdsNonzero_of_no_zero (fuel : Nat) (bs : Bytes) (h : ∀ b ∈ bs, b ≠ 0) : cmdsNonzero fuel bs = true := by
  induction fuel generalizing bs with
  | zero => rfl
  | succ fuel ih =>
    cases bs with
    | nil => rfl
    | cons cmd rest =>
      simp only [cmdsNonzero, Bool.and_eq_true]
      refine ⟨by simpa using h cmd (by simp), ?_⟩
      rcases hd : splitStream.rl 4 rest 1 0 with _ | _ | ⟨n, bs'⟩
      · rfl
      · rfl
      · simp only
        split
        · exact ih _ fun b hb =>
            h b (List.mem_cons_of_mem _ ((rl_suffix hd).1.subset (List.mem_of_mem_drop hb)))
        · rfl

end Paho.ReaderLemmas
