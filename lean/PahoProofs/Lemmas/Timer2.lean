/-
The two actions of `_check_keepalive` / `loop_misc()` with their effect on timers, socket and log; then the invariants
over `S.step` behind C08.
-/
import PahoProofs.Lemmas.Timer
import PahoProofs.Lemmas.SessionDisc
import PahoProofs.Lemmas.SessionFrame
namespace Paho
namespace TimerLemmas
open S SessAct

variable {g : Bool} {s t : S} {c K acc : Nat}

/-- the PINGREQ branch of `_check_keepalive` -/
def kaPing (s : S) : S :=
  match s.sendSimple 0xC0 with
  | (s1, rc) =>
    let s2 : S := if rc = rcSuccess then { s1 with pingT := s1.now } else s1
    { s2 with lastOut := s2.now, lastIn := s2.now }

/-- the closing branch of `_check_keepalive` and of `loop_misc()` -/
def kaClose (s : S) : S :=
  let s1 := s.sockClose
  if s1.disconnectingOrDone then ({ s1 with cstate := .disconnected } : S).doOnDisconnect rcSuccess false
  else ({ s1 with cstate := .connectionLost } : S).doOnDisconnect rcKeepalive false

def idleB (s : S) : Bool :=
  decide (s.now - s.lastOut ≥ s.cfg.keepalive * 1000) || decide (s.now - s.lastIn ≥ s.cfg.keepalive * 1000)

theorem idleB_true : idleB s = true ↔
    s.now - s.lastOut ≥ s.cfg.keepalive * 1000 ∨ s.now - s.lastIn ≥ s.cfg.keepalive * 1000 := by
  simp [idleB]

theorem idleB_false : idleB s = false ↔
    s.now - s.lastOut < s.cfg.keepalive * 1000 ∧ s.now - s.lastIn < s.cfg.keepalive * 1000 := by
  simp [idleB]

abbrev pingExpired (t : S) : Prop := t.pingT > 0 ∧ t.now - t.pingT ≥ t.cfg.keepalive * 1000

theorem checkKeepalive_eq (s : S) : s.checkKeepalive =
    if s.cfg.keepalive = 0 then s
    else match s.sock with
      | none => s
      | some _ =>
        if idleB s then
          if s.cstate = .connected ∧ s.pingT = 0 then kaPing s else kaClose s
        else s := by
  unfold checkKeepalive
  cases s.sock <;> rfl

theorem loopMisc_eq (s : S) : s.loopMisc =
    match s.sock with
    | none => (s, rcNoConn)
    | some _ =>
      match s.checkKeepalive.sock with
      | none => (s.checkKeepalive, rcConnLost)
      | some _ => if pingExpired s.checkKeepalive then (kaClose s.checkKeepalive, rcConnLost) else (s.checkKeepalive, rcSuccess) := by
  unfold loopMisc
  cases s.sock with
  | none => rfl
  | some c =>
    dsimp only
    generalize s.checkKeepalive = ck
    cases ck.sock with
    | none => rfl
    | some c2 =>
      dsimp only
      -- the test `Gen.kaPingCmp.evalNat a b` of the model is `decide (a ≥ b)`
      by_cases h : pingExpired ck
      · rw [if_pos h, if_pos ⟨h.1, decide_eq_true h.2⟩, kaClose]
        split <;> rfl
      · rw [if_neg h, if_neg fun h' => h ⟨h'.1, of_decide_eq_true h'.2⟩]

theorem kaClose_sock (s : S) : (kaClose s).sock = none :=
  have h : s.sockClose.sock = none := (congrArg View.sock (view_sockClose s false)).trans (vSockClose_sock _ false)
  ite_ind (P := fun u : S => u.sock = none) h h

theorem kaClose_log (s : S) (c : Nat) (hs : s.sock = some c) (hext : s.cfg.ext = false) (hst : s.cstate = .connected) :
    (kaClose s).log = s.log ++ [.sclose c false, .onDisconnect 16 false] ∧ (kaClose s).cstate = .connectionLost := by
  -- disconnect() was not called: the branch that reports `rcKeepalive`
  have hd : ¬ s.sockClose.disconnectingOrDone = true := by
    rw [disconnectingOrDone, sockClose_cstate, hst]
    nofun
  have hk : kaClose s = ({ s.sockClose with cstate := .connectionLost } : S).emit (.onDisconnect 16 false) := if_neg hd
  -- without the socket callbacks `_sock_close` logs the close and nothing else
  have hl : (view s.sockClose).log = s.log ++ [.sclose c false] := by
    rw [view_sockClose, vSockClose_some (v := view s) hs]
    simp [closeEvs, hext]
  rw [hk]
  exact ⟨(congrArg (· ++ _) hl).trans (List.append_assoc ..), rfl⟩

theorem kaClose_fr (s : S) : Fr false s (kaClose s) := by
  have h1 : Fr false s s.sockClose := .sockClose_r _ .refl
  exact ite_ind (.dod_r (h1.congr_r rfl) nofun) (.dod_r (h1.congr_r rfl) nofun)

theorem enqS_proj (s : S) (pkt : OutPkt) : (enqS s pkt).sock = s.sock ∧ (enqS s pkt).sendScript = s.sendScript ∧
    (enqS s pkt).outq = s.outq ++ [pkt] ∧
    (enqS s pkt).log = s.log ++ (match s.sock with | some c => [Ev.queued c pkt.bytes] | none => []) := by
  unfold enqS
  cases hc : s.sock <;> simp [emit]

theorem packetQueue_queued (s : S) (pkt : OutPkt) (hs : s.sock = some c) :
    ∃ evs, (s.packetQueue pkt).1.log = s.log ++ Ev.queued c pkt.bytes :: evs := by
  obtain ⟨evs, he, -⟩ := (packetQueue_enq_fr (g := false) (t := s) (pkt := pkt) (direct := true)).1.log
  obtain ⟨-, -, -, hl⟩ := enqS_proj s pkt
  rw [hs] at hl
  exact ⟨evs, by rw [he, hl, List.append_assoc]; rfl⟩

theorem tr0_facts {v v' : View} (h : Tr0 v v') :
    v'.sock = v.sock ∧ ∃ evs, v'.log = v.log ++ evs ∧ Disc.Silent evs := by
  induction h with
  | refl v => exact ⟨rfl, [], by simp, Disc.Silent.nil⟩
  | @cons k a b c ha hk _ ih =>
    cases k <;> simp [Kind.isQuiet] at hk
    obtain ⟨h1, -, e1, hl1, hs1⟩ := Disc.quiet_facts ha
    obtain ⟨h2, e2, hl2, hs2⟩ := ih
    exact ⟨h2.trans h1, e1 ++ e2, by rw [hl2, hl1, List.append_assoc], hs1.append hs2⟩

/-- `hsend`: the transport accepts whatever is written -/
theorem packetQueue_live (s : S) (pkt : OutPkt) (hs : s.sock = some c) (hsend : s.sendScript = []) (hq : s.outq = [])
    (hd : ¬ isDiscCmd pkt.command) :
    (s.packetQueue pkt).1.sock = some c ∧ ∃ evs, (s.packetQueue pkt).1.log = s.log ++ evs ∧ Disc.Silent evs := by
  obtain ⟨e1, e2, e3, e4⟩ := enqS_proj s pkt
  rw [hs] at e1 e4
  rw [hsend] at e2
  rw [hq] at e3
  -- after the queueing, `loop_write()` (or the write registration) is a path of quiet actions
  have hp : Tr0 (view (enqS s pkt)) (view (s.packetQueue pkt).1) := by
    rw [packetQueue_eq]
    refine ite_ind (P := fun p : S × RC => Tr0 _ (view p.1)) (loopWrite_quiet _ (by rw [e1]; rfl) e2 ?_).1
      (view_regW _ ▸ Path.single (Act.regW _) rfl)
    rw [e3]
    exact List.forall_mem_singleton.mpr hd
  obtain ⟨h1, evs, h2, h3⟩ := tr0_facts hp
  exact ⟨h1.trans e1, _ ++ evs, by rw [← List.append_assoc, ← e4]; exact h2, (Disc.Silent.single rfl rfl).append h3⟩

theorem kaPing_proj (s : S) : (kaPing s).now = s.now ∧ (kaPing s).cfg = s.cfg ∧
    (kaPing s).lastOut = s.now ∧ (kaPing s).lastIn = s.now ∧
    ((kaPing s).pingT = s.now ∨ (kaPing s).pingT = s.pingT ∨ (kaPing s).pingT = 0) ∧
    (kaPing s).sock = (s.sendSimple 0xC0).1.sock ∧ (kaPing s).log = (s.sendSimple 0xC0).1.log := by
  have hF := (sendSimple_fr (g := false) (t := s) (command := 0xC0) nofun).1
  unfold kaPing
  generalize s.sendSimple 0xC0 = p at hF ⊢
  obtain ⟨s1, rc⟩ := p
  have a : s1.now = s.now := hF.now
  dsimp only
  split
  · exact ⟨a, hF.cfg, a, a, .inl a, rfl, rfl⟩
  · exact ⟨a, hF.cfg, a, a, .inr hF.pingT, rfl, rfl⟩

theorem checkKeepalive_rest (h : s.cfg.keepalive = 0 ∨ s.sock = none ∨ idleB s = false) :
    s.checkKeepalive = s := by
  rw [checkKeepalive_eq]
  rcases h with h | h | h
  · exact if_pos h
  · rw [h]; exact ite_self _
  · refine ite_ind (P := fun x => x = s) rfl ?_
    split
    · rfl
    · rw [h]; rfl

theorem checkKeepalive_idle (hk : s.cfg.keepalive > 0) (hs : s.sock = some c) (hi : idleB s = true) :
    s.checkKeepalive = if s.cstate = .connected ∧ s.pingT = 0 then kaPing s else kaClose s := by
  rw [checkKeepalive_eq, if_neg (Nat.ne_of_gt hk), hs]
  exact if_pos hi

theorem checkKeepalive_cases (s : S) :
    (s.checkKeepalive = s ∧ (s.cfg.keepalive = 0 ∨ s.sock = none ∨ idleB s = false)) ∨
    (s.checkKeepalive = kaPing s ∧ s.pingT = 0) ∨
    s.checkKeepalive = kaClose s := by
  by_cases h : s.cfg.keepalive = 0 ∨ s.sock = none ∨ idleB s = false
  · exact .inl ⟨checkKeepalive_rest h, h⟩
  · simp only [not_or, Bool.not_eq_false] at h
    obtain ⟨c, hc⟩ := Option.ne_none_iff_exists'.mp h.2.1
    rw [checkKeepalive_idle (Nat.pos_of_ne_zero h.1) hc h.2.2]
    by_cases hp : s.cstate = .connected ∧ s.pingT = 0
    · exact .inr (.inl ⟨if_pos hp, hp.2⟩)
    · exact .inr (.inr (if_neg hp))

theorem loopMisc_rest (hs : s.sock = some c) (h : s.cfg.keepalive = 0 ∨ idleB s = false) :
    s.loopMisc = if pingExpired s then (kaClose s, rcConnLost) else (s, rcSuccess) := by
  rw [loopMisc_eq, checkKeepalive_rest (h.imp_right .inr), hs]

theorem loopMisc_closed (hs : s.sock = some c) (hck : s.checkKeepalive = kaClose s) :
    s.loopMisc = (kaClose s, rcConnLost) := by
  rw [loopMisc_eq, hck, hs, kaClose_sock s]

theorem loopMisc_ping (hs : s.sock = some c) (hk : s.cfg.keepalive > 0) (hp : s.pingT = 0)
    (hck : s.checkKeepalive = kaPing s) : s.loopMisc.1 = kaPing s := by
  have hne : ¬ pingExpired (kaPing s) := by
    obtain ⟨p1, p2, -, -, p5, -⟩ := kaPing_proj s
    rw [pingExpired, p1, p2]
    omega
  rw [loopMisc_eq, hck, hs]
  dsimp only
  split
  · rfl
  · rw [if_neg hne]

theorem loopMisc_cases (s : S) :
    (s.sock = none ∧ s.loopMisc = (s, rcNoConn)) ∨
    (s.sock.isSome = true ∧ s.checkKeepalive.sock = none ∧ s.loopMisc = (s.checkKeepalive, rcConnLost)) ∨
    (s.sock.isSome = true ∧ s.checkKeepalive.sock.isSome = true ∧ pingExpired s.checkKeepalive ∧
      s.loopMisc = (kaClose s.checkKeepalive, rcConnLost)) ∨
    (s.sock.isSome = true ∧ s.checkKeepalive.sock.isSome = true ∧ ¬ pingExpired s.checkKeepalive ∧
      s.loopMisc = (s.checkKeepalive, rcSuccess)) := by
  rw [loopMisc_eq]
  cases s.sock with
  | none => exact .inl ⟨rfl, rfl⟩
  | some c =>
    cases s.checkKeepalive.sock with
    | none => exact .inr (.inl ⟨rfl, rfl, rfl⟩)
    | some c2 =>
      by_cases he : pingExpired s.checkKeepalive
      · exact .inr (.inr (.inl ⟨rfl, rfl, he, if_pos he⟩))
      · exact .inr (.inr (.inr ⟨rfl, rfl, he, if_neg he⟩))

/-- what `_check_keepalive` / `loop_misc()` may do to the timers: what closing does (`Fr`), or the refresh that goes with
a PINGREQ -/
def CkFrame (s t : S) : Prop :=
  Fr false s t ∨
  (t.now = s.now ∧ t.cfg = s.cfg ∧ t.lastOut = s.now ∧ t.lastIn = s.now ∧ (t.pingT = s.now ∨ t.pingT = 0))

theorem CkFrame.now (h : CkFrame s t) : t.now = s.now := h.elim (·.now) (·.1)

theorem CkFrame.kaClose (h : CkFrame s t) : CkFrame s (kaClose t) := by
  have f := kaClose_fr t
  rcases h with h | ⟨a, b, c, d, e⟩
  · exact .inl (h.trans f)
  · -- timers just set to the clock survive the closing
    exact .inr ⟨f.now.trans a, f.cfg.trans b, f.lastOut.elim (·.trans c) (·.trans a),
      f.lastIn.elim (·.trans d) (·.trans a), keep_or e f.pingT⟩

theorem checkKeepalive_frame (s : S) : CkFrame s s.checkKeepalive := by
  have h0 : CkFrame s s := .inl .refl
  rcases checkKeepalive_cases s with ⟨a, _⟩ | ⟨a, hp⟩ | a <;> rw [a]
  · exact h0
  · obtain ⟨p1, p2, p3, p4, p5, _⟩ := kaPing_proj s
    exact .inr ⟨p1, p2, p3, p4, by omega⟩
  · exact h0.kaClose

theorem loopMisc_frame (s : S) : CkFrame s s.loopMisc.1 := by
  rcases loopMisc_cases s with ⟨_, h⟩ | ⟨_, _, h⟩ | ⟨_, _, _, h⟩ | ⟨_, _, _, h⟩ <;> rw [h]
  · exact .inl .refl
  · exact checkKeepalive_frame s
  · exact (checkKeepalive_frame s).kaClose
  · exact checkKeepalive_frame s

theorem step_ind {motive : Op → Prop} (misc : motive .loopMisc) (tick : ∀ ms, motive (.tick ms))
    (other : ∀ op, op ≠ .loopMisc → (∀ ms, op ≠ .tick ms) → motive op) (op : Op) : motive op := by
  cases op with
  | loopMisc => exact misc
  | tick ms => exact tick ms
  | _ => exact other _ nofun nofun

theorem step_loopMisc (s : S) : s.step .loopMisc = s.loopMisc.1.emit (.ret s.loopMisc.2 none) := rfl

theorem step_cfg (s : S) (op : Op) : (s.step op).cfg = s.cfg := by
  induction op using step_ind with
  | misc => exact (loopMisc_frame s).elim (·.cfg) (·.2.1)
  | tick ms => rfl
  | other op h1 h2 => exact (step_fr (g := false) s op h1 h2).cfg

def TInv (s : S) : Prop :=
  s.lastOut ≤ s.now ∧ s.lastIn ≤ s.now ∧ s.pingT ≤ s.now ∧ (s.pingT > 0 → s.pingT ≤ s.lastOut ∧ s.pingT ≤ s.lastIn)

theorem TInv.fr (h : TInv s) (hf : Fr g s t) : TInv t := by
  have a := hf.now; have b := hf.lastIn; have c := hf.lastOut; have d := hf.pingT
  unfold TInv at *
  omega

theorem TInv.ck (h : TInv s) (hf : CkFrame s t) : TInv t := by
  rcases hf with hf | hf
  · exact h.fr hf
  · unfold TInv at *
    omega

theorem TInv.step (s : S) (op : Op) (h : TInv s) : TInv (s.step op) := by
  induction op using step_ind with
  | misc =>
    show TInv s.loopMisc.1
    exact h.ck (loopMisc_frame s)
  | tick ms => exact ⟨Nat.le_add_right_of_le h.1, Nat.le_add_right_of_le h.2.1, Nat.le_add_right_of_le h.2.2.1, h.2.2.2⟩
  | other op h1 h2 => exact h.fr (step_fr (g := false) s op h1 h2)

def K0Inv (s : S) : Prop := s.cfg.keepalive = 0 ∧ s.pingT = 0 ∧ ∀ e ∈ s.log, goodEv e = true

theorem loopMisc_k0 (s : S) (hk : s.cfg.keepalive = 0) (hp : s.pingT = 0) : s.loopMisc.1 = s := by
  cases hs : s.sock with
  | none => rw [loopMisc_eq, hs]
  | some c => rw [loopMisc_rest hs (.inl hk), if_neg (by omega)]

theorem K0Inv.fr (h : K0Inv s) (hf : Fr true s t) : K0Inv t := by
  obtain ⟨evs, he, hg⟩ := hf.log
  refine ⟨hf.cfg ▸ h.1, hf.pingT.elim (·.trans h.2.1) id, fun e hm => ?_⟩
  rw [he] at hm
  exact (List.mem_append.mp hm).elim (h.2.2 e) (hg rfl e)

theorem K0Inv.step (s : S) (op : Op) (h : K0Inv s) : K0Inv (s.step op) := by
  induction op using step_ind with
  | misc =>
    rw [step_loopMisc, loopMisc_k0 s h.1 h.2.1]
    exact h.fr (.emit .refl rfl)
  | tick ms => exact h
  | other op h1 h2 => exact h.fr (step_fr s op h1 h2)

def GInv (K acc : Nat) (s : S) : Prop :=
  s.sock.isSome = true →
    s.now - s.lastOut < K * 1000 + acc ∧ s.now - s.lastIn < K * 1000 + acc ∧
    (s.pingT > 0 → s.now - s.pingT < K * 1000 + acc)

theorem GInv.mono {a b : Nat} (h : GInv K a s) (hab : a ≤ b) : GInv K b s := fun hs =>
  have le := Nat.add_le_add_left hab (K * 1000)
  ⟨Nat.lt_of_lt_of_le (h hs).1 le, Nat.lt_of_lt_of_le (h hs).2.1 le, fun hp => Nat.lt_of_lt_of_le ((h hs).2.2 hp) le⟩

theorem young_of {n a a' B : Nat} (h : a' = a ∨ a' = n) (ha : n - a < B) (hB : 0 < B) : n - a' < B := by
  rcases h with rfl | rfl
  · exact ha
  · rwa [Nat.sub_self]

theorem GInv.fr (hK : K > 0) (h : GInv K acc s) (hf : Fr g s t) : GInv K acc t := by
  intro ht
  have hB : 0 < K * 1000 + acc := by omega
  rw [hf.now]
  cases hs : s.sock with
  | none =>
    obtain ⟨a, b, c⟩ := hf.newSock hs ht
    rw [a, b, c, Nat.sub_self]
    exact ⟨hB, hB, nofun⟩
  | some c =>
    obtain ⟨a, b, c⟩ := h (by rw [hs]; rfl)
    refine ⟨young_of hf.lastOut a hB, young_of hf.lastIn b hB, fun hp => ?_⟩
    rcases hf.pingT with e | e
    · rw [e] at hp ⊢; exact c hp
    · rw [e] at hp; cases hp

theorem young_tick {n a B acc ms : Nat} (h : n - a < B + acc) : n + ms - a < B + (acc + ms) := by omega

theorem GInv.tick (h : GInv K acc s) (ms : Nat) : GInv K (acc + ms) (s.step (.tick ms)) :=
  fun ht => ⟨young_tick (h ht).1, young_tick (h ht).2.1, fun hp => young_tick ((h ht).2.2 hp)⟩

theorem GInv.misc (s : S) (hk : s.cfg.keepalive > 0) : GInv s.cfg.keepalive 0 s.loopMisc.1 := by
  intro ht
  have hB : 0 < s.cfg.keepalive * 1000 := by omega
  have hclosed (t : S) : (kaClose t).sock.isSome ≠ true := by rw [kaClose_sock t]; nofun
  -- the socket survives only where `loop_misc()` returns what `_check_keepalive` left, with no PINGREQ expired
  rcases loopMisc_cases s with ⟨h1, h2⟩ | ⟨-, h2, h3⟩ | ⟨-, -, -, h4⟩ | ⟨h1, -, h3, h4⟩
  · rw [h2, h1] at ht; cases ht
  · rw [h3, h2] at ht; cases ht
  · rw [h4] at ht; exact absurd ht (hclosed _)
  rw [show s.loopMisc.1 = s.checkKeepalive from congrArg Prod.fst h4] at ht ⊢
  simp only [Nat.add_zero]
  rcases checkKeepalive_cases s with ⟨a, b⟩ | ⟨a, hp⟩ | a <;> rw [a] at h3 ht ⊢
  · -- `_check_keepalive` did nothing because neither timer is `K` old
    have hi := idleB_false.mp ((b.resolve_left (by omega)).resolve_left fun b => by rw [b] at h1; cases h1)
    exact ⟨hi.1, hi.2, fun hp => Nat.lt_of_not_le fun hge => h3 ⟨hp, hge⟩⟩
  · -- the PINGREQ was sent: all three timers are the clock (or `pingT` is 0)
    obtain ⟨p1, -, p3, p4, p5, -⟩ := kaPing_proj s
    rw [p1, p3, p4, Nat.sub_self]
    refine ⟨hB, hB, fun hp' => ?_⟩
    rcases p5 with e | e | e <;> rw [e] at hp' ⊢
    · rwa [Nat.sub_self]
    · rw [hp] at hp'; cases hp'
    · cases hp'
  · exact absurd ht (hclosed s)

theorem init_sock (cfg : Cfg) (proto t : Nat) : (S.init cfg proto t).sock = none := rfl

end TimerLemmas
end Paho
