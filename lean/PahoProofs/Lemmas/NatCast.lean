/-
The translated Python functions compute with `Int`, the model counts with `Nat`: comparisons of two casts, in terms
of the naturals.
-/
namespace Paho

theorem natCast_beq (n k : Nat) : ((n : Int) == (k : Int)) = decide (n = k) := by
  rw [Bool.beq_eq_decide_eq, decide_eq_decide]; exact Int.ofNat_inj

/-- the literal `0` is not syntactically a cast -/
theorem natCast_beq_zero (n : Nat) : ((n : Int) == 0) = decide (n = 0) :=
  natCast_beq n 0

theorem natCast_gt (n k : Nat) : decide ((n : Int) > (k : Int)) = decide (n > k) :=
  decide_eq_decide.2 Int.ofNat_lt

end Paho
