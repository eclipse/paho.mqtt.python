/-
Lemmas for C09 (loop_forever reconnection automaton, Paho/Model/LoopForever.lean): a run is a derivation (`Run`), and
what C09 says of runs is proved by induction on derivations.
-/
import Paho.Model.LoopForever

namespace Paho.LF

def obsTime : Obs → Option Nat
  | .attempt t _ => some t
  | .onConnectFail t => some t
  | .onConnect _ t => some t
  | .onDisconnect _ t => some t
  | .userDisconnect t => some t
  | _ => none

end Paho.LF

namespace Paho.LFLemmas
open Paho Paho.LF

/-- below the cap nothing is cut off; once capped, the register stays at the cap -/
theorem min_step (M a : Nat) : Nat.min (Nat.min a M * 2) M = Nat.min (a * 2) M := by
  show min (min a M * 2) M = min (a * 2) M
  rcases Nat.le_total a M with h | h
  · rw [Nat.min_eq_left h]
  · rw [Nat.min_eq_right h, Nat.min_eq_right (Nat.le_mul_of_pos_right M Nat.two_pos),
      Nat.min_eq_right (Nat.le_trans h (Nat.le_mul_of_pos_right a Nat.two_pos))]

theorem delayNext_none (c : Cfg) : delayNext c none = c.minDelay := rfl

theorem delayNext_some (c : Cfg) (x : Nat) : delayNext c (some x) = Nat.min (x * 2) c.maxDelay := rfl

def RegOK (c : Cfg) (d : Option Nat) : Prop :=
  ∀ x, d = some x → c.minDelay ≤ x ∧ x ≤ c.maxDelay

theorem delayNext_bounds (c : Cfg) (h : c.minDelay ≤ c.maxDelay) (d : Option Nat) (hd : RegOK c d) :
    c.minDelay ≤ delayNext c d ∧ delayNext c d ≤ c.maxDelay := by
  cases d with
  | none => exact ⟨Nat.le_refl _, h⟩
  | some x =>
    exact ⟨Nat.le_min.2 ⟨Nat.le_trans (hd x rfl).1 (Nat.le_mul_of_pos_right x Nat.two_pos), h⟩, Nat.min_le_right _ _⟩

-- `isAttempt`, `isUserDisc`, `isEnd` of C09.lean, which proves them equal (`isAttempt_eq`, ..)

def isAtt : Obs → Bool
  | .attempt _ _ => true
  | _ => false

def isUD : Obs → Bool
  | .userDisconnect _ => true
  | _ => false

def isEndE : Obs → Bool
  | .ret _ => true
  | .raised => true
  | _ => false

def isCb : Obs → Bool
  | .onConnectFail _ => true
  | .onConnect _ _ => true
  | .onDisconnect _ _ => true
  | _ => false

@[simp] theorem emit_log (s : St) (o : Obs) : (s.emit o).log = s.log ++ [o] := rfl
@[simp] theorem emit_disconnected (s : St) (o : Obs) : (s.emit o).disconnected = s.disconnected := rfl
@[simp] theorem emit_now (s : St) (o : Obs) : (s.emit o).now = s.now := rfl
@[simp] theorem emit_delay (s : St) (o : Obs) : (s.emit o).delay = s.delay := rfl
@[simp] theorem emit_proto (s : St) (o : Obs) : (s.emit o).proto = s.proto := rfl

section
variable (c : Cfg) (s : St)

theorem rw_of_disconnected (w : Bool) (h : s.disconnected = true) :
    reconnectWait c s w = { s with delay := some (delayNext c s.delay) } := by
  unfold reconnectWait; simp [h]

theorem rw_false (h : s.disconnected = false) :
    reconnectWait c s false =
      { s with delay := some (delayNext c s.delay), now := s.now + delayNext c s.delay * 1000 } := by
  unfold reconnectWait; simp [h]

theorem rw_true (h : s.disconnected = false) :
    reconnectWait c s true =
      ({ s with delay := some (delayNext c s.delay), now := s.now + min (delayNext c s.delay) 1 * 1000,
                disconnected := true } : St).emit (.userDisconnect (s.now + min (delayNext c s.delay) 1 * 1000)) := by
  unfold reconnectWait; simp [h]

end

/-- `s'` is `s` some callbacks later, within one attempt: no attempt and no `raised` is logged, and `s'` is disconnected
if `s` was or a user disconnect is among the events -/
def Ext (s s' : St) : Prop :=
  ∃ evs, s'.log = s.log ++ evs ∧ evs.all (fun e => !isAtt e) = true ∧ Obs.raised ∉ evs ∧
    (s'.disconnected = false → s.disconnected = false ∧ evs.all (fun e => !isUD e) = true)

-- `connLife` and `run` branch on the script's flags
theorem ite_of {α : Type} {P : α → Prop} (b : Prop) [Decidable b] {x y : α} (hx : P x) (hy : P y) :
    P (if b then x else y) := by
  split <;> assumption

theorem fst_ite_of {α β : Type} {P : α → Prop} (b : Prop) [Decidable b] {p q : α × β} (hp : P p.1) (hq : P q.1) :
    P (if b then p else q).1 := by
  split <;> assumption

section
variable {s s' s'' : St}

theorem Ext.refl (s : St) : Ext s s := ⟨[], (List.append_nil _).symm, rfl, List.not_mem_nil, fun h => ⟨h, rfl⟩⟩

/-- a change of clock, register or protocol version -/
theorem Ext.set (h : Ext s s') (hl : s''.log = s'.log) (hd : s''.disconnected = s'.disconnected) : Ext s s'' := by
  obtain ⟨evs, h⟩ := h
  exact ⟨evs, hl ▸ hd ▸ h⟩

theorem Ext.snoc {o : Obs} (h : Ext s s') (hl : s''.log = s'.log ++ [o]) (ha : isAtt o = false)
    (hr : o ≠ .raised) (hd : s''.disconnected = false → s'.disconnected = false ∧ isUD o = false) : Ext s s'' := by
  obtain ⟨evs, hlog, hatt, hra, hdisc⟩ := h
  refine ⟨evs ++ [o], by rw [hl, hlog, List.append_assoc], ?_, ?_, fun h => ?_⟩
  · simp [hatt, ha]
  · simp [hra, hr.symm]
  · have := hd h
    simp [hdisc this.1, this.2]

theorem Ext.emit (h : Ext s s') (o : Obs) (ho : isCb o = true) : Ext s (s'.emit o) :=
  h.snoc rfl (by cases o <;> first | rfl | cases ho) (by rintro rfl; cases ho)
    (fun hd => ⟨hd, by cases o <;> first | rfl | cases ho⟩)

/-- `disconnect()` called by the application -/
theorem Ext.disc (h : Ext s s') (t : Nat) : Ext s (({ s' with disconnected := true } : St).emit (.userDisconnect t)) :=
  h.snoc rfl rfl nofun nofun

/-- `disconnect()` called once more -/
theorem Ext.ud (h : Ext s s') (hd : s'.disconnected = true) (t : Nat) : Ext s (s'.emit (.userDisconnect t)) :=
  (h.disc t).set rfl hd

theorem Ext.wait (h : Ext s s') (c : Cfg) (w : Bool) : Ext s (reconnectWait c s' w) := by
  cases hd : s'.disconnected
  · cases w
    · rw [rw_false c s' hd]; exact h.set rfl rfl
    · rw [rw_true c s' hd]; exact (h.set rfl rfl).disc _
  · rw [rw_of_disconnected c s' w hd]; exact h.set rfl rfl

end

section
variable (c : Cfg) (s : St)

theorem connLife_ext (o : Outcome) : Ext s (connLife c s o).1 := by
  cases o with
  | refuse d => exact .refl s
  | preDisc => exact .refl s
  | downgrade t => exact (Ext.refl s).set rfl rfl
  | eof t d =>
    have h1 : Ext s (({ s with now := s.now + t } : St).emit (.onDisconnect 7 (s.now + t))) :=
      ((Ext.refl s).set rfl rfl).emit _ rfl
    exact ite_of _ (h1.disc _) h1
  | connackRefused rc t d =>
    have h1 : Ext s (({ s with now := s.now + t } : St).emit
        (.onConnect (if s.proto = 5 ∧ rc = 1 then 132 else rc) (s.now + t))) :=
      ((Ext.refl s).set rfl rfl).emit _ rfl
    have h2 := (ite_of d.inOnConnect (h1.disc (s.now + t)) h1).emit
    exact ite_of _ ((h2 _ rfl).disc _) (h2 _ rfl)
  | accepted t life d =>
    have h1 : Ext s (({ s with now := s.now + t, delay := none } : St).emit (.onConnect 0 (s.now + t))) :=
      ((Ext.refl s).set rfl rfl).emit _ rfl
    have h2 := (h1.disc (s.now + t)).emit
    have h3 := (h1.set (s'' := { ({ s with now := s.now + t, delay := none } : St).emit (.onConnect 0 (s.now + t)) with
      now := s.now + t + life }) rfl rfl).emit
    exact fst_ite_of _
      (fst_ite_of _ (ite_of _ ((h2 _ rfl).ud rfl _) (h2 _ rfl)) (ite_of _ ((h2 _ rfl).ud rfl _) (h2 _ rfl)))
      (ite_of _ ((h3 _ rfl).disc _) (h3 _ rfl))

def Stamped (s : St) : Prop := ∃ e, s.log.getLast? = some e ∧ obsTime e = some s.now

theorem Stamped.emit {s : St} {o : Obs} (ht : obsTime o = some s.now) : Stamped (s.emit o) :=
  ⟨o, List.getLast?_concat, ht⟩

/-- the outcomes on which `run` calls `connLife` (`run_conn`) -/
def IsConn : Outcome → Prop
  | .refuse _ => False
  | .downgrade _ => False
  | .preDisc => False
  | _ => True

theorem connLife_stamped (o : Outcome) (ho : IsConn o) : Stamped (connLife c s o).1 := by
  cases o with
  | eof t d => exact ite_of _ (.emit rfl) (.emit rfl)
  | connackRefused rc t d => exact ite_of _ (.emit rfl) (.emit rfl)
  | accepted t life d =>
    exact fst_ite_of _
      (fst_ite_of _ (ite_of _ (.emit rfl) (.emit rfl)) (ite_of _ (.emit rfl) (.emit rfl)))
      (ite_of _ (.emit rfl) (.emit rfl))
  | _ => exact ho.elim

theorem connLife_delay (o : Outcome) :
    (connLife c s o).1.delay = match o with | .accepted .. => none | _ => s.delay := by
  cases o with
  | accepted t life d =>
    let P (s' : St) : Prop := s'.delay = none
    exact show P _ from fst_ite_of _ (fst_ite_of _ (ite_of _ rfl rfl) (ite_of _ rfl rfl)) (ite_of _ rfl rfl)
  | eof t d => exact ite_of (P := fun s' : St => s'.delay = s.delay) _ rfl rfl
  | connackRefused rc t d =>
    obtain ⟨_, onConnect, onDisconnect, _, _⟩ := d
    cases onConnect <;> cases onDisconnect <;> rfl
  | _ => rfl

theorem connLife_reg (o : Outcome) (h : RegOK c s.delay) : RegOK c (connLife c s o).1.delay := by
  rw [connLife_delay]
  split
  · nofun
  · exact h

variable (fuel : Nat) (rest : List Outcome) (first : Bool)

theorem run_zero (script : List Outcome) : run c 0 script first s = s.emit .scriptEnd := by
  cases script <;> rfl

theorem run_nil : run c fuel [] first s = s.emit .scriptEnd := by
  cases fuel <;> rfl

theorem run_conn (o : Outcome) (ho : IsConn o) :
    run c (fuel + 1) (o :: rest) first s =
      (let r := connLife c (s.emit (.attempt s.now true)) o
       if r.1.disconnected ∨ !c.rof then r.1.emit (.ret (if r.1.disconnected ∧ r.2.1 = 0 then 7 else r.2.1))
       else if (reconnectWait c r.1 o.disc.inWait).disconnected then (reconnectWait c r.1 o.disc.inWait).emit (.ret r.2.1)
       else run c fuel rest false (reconnectWait c r.1 o.disc.inWait)) := by
  cases o <;> first | exact ho.elim | rfl

theorem run_refuse (d : DiscAt) :
    run c (fuel + 1) (.refuse d :: rest) first s =
      (let s1 := (s.emit (.attempt s.now false)).emit (.onConnectFail s.now)
       let s2 := if d.inConnectFail then ({ s1 with disconnected := true }).emit (.userDisconnect s.now) else s1
       if first ∧ !c.retryFirst then s2.emit .raised
       else if s2.disconnected ∨ !c.rof then s2.emit (.ret 7)
       else if (reconnectWait c s2 d.inWait).disconnected then (reconnectWait c s2 d.inWait).emit (.ret 7)
       else run c fuel rest false (reconnectWait c s2 d.inWait)) := rfl

theorem run_downgrade (t : Nat) :
    run c (fuel + 1) (.downgrade t :: rest) first s =
      (if s.proto = 4 ∧ c.rof then
        let s1 : St := { s.emit (.attempt s.now true) with now := s.now + t, proto := 3 }
        match rest with
        | .preDisc :: _ => (({ s1 with disconnected := true } : St).emit (.userDisconnect s1.now)).emit (.ret 4)
        | _ => run c fuel rest false s1
      else if s.proto = 4 then
        (({ s.emit (.attempt s.now true) with now := s.now + t } : St).emit (.onDisconnect 2 (s.now + t))).emit (.ret 2)
      else run c fuel (.connackRefused 1 t {} :: rest) first s) := rfl

theorem run_preDisc :
    run c (fuel + 1) (.preDisc :: rest) first s =
      (({ s with disconnected := true } : St).emit (.userDisconnect s.now)).emit (.ret 7) := rfl

end

/-- `loop_forever()` entered in `s` may end in `fin`: one rule for each way an iteration goes on, with the callbacks of
the attempt summed up by `Ext` and the back-off wait written out. `run` gives one such `fin` (`run_Run`). -/
inductive Run (c : Cfg) : Nat → List Outcome → Bool → St → St → Prop
  | noFuel {script first s} : Run c 0 script first s (s.emit .scriptEnd)
  | noScript {fuel first s} : Run c fuel [] first s (s.emit .scriptEnd)
  /-- `loop_forever()` returns, or raises: that only in phase 1 without retry_first_connection -/
  | stop {fuel o rest first s} (ok : Bool) {s1 : St} (e : Obs) : Ext (s.emit (.attempt s.now ok)) s1 → isEndE e = true →
      (e = .raised → first = true ∧ c.retryFirst = false) → Run c (fuel + 1) (o :: rest) first s (s1.emit e)
  | preDisc {fuel rest first s} : Run c (fuel + 1) (.preDisc :: rest) first s
      ((({ s with disconnected := true } : St).emit (.userDisconnect s.now)).emit (.ret 7))
  /-- attempt failed or connection lost, nobody has disconnected: back-off wait, next item -/
  | wait {fuel o rest first s fin} (ok : Bool) {s1 : St} : c.rof = true → Ext (s.emit (.attempt s.now ok)) s1 →
      s1.disconnected = false → Stamped s1 → (RegOK c s.delay → RegOK c s1.delay) →
      Run c fuel rest false
        { s1 with delay := some (delayNext c s1.delay), now := s1.now + delayNext c s1.delay * 1000 } fin →
      Run c (fuel + 1) (o :: rest) first s fin
  /-- MQTT 3.1.1 refused: next item at once, as MQTT 3.1 -/
  | downgrade {fuel t rest first s fin} : c.rof = true →
      Run c fuel rest false { s.emit (.attempt s.now true) with now := s.now + t, proto := 3 } fin →
      Run c (fuel + 1) (.downgrade t :: rest) first s fin
  /-- not MQTT 3.1.1: `downgrade` is an ordinary refused CONNACK -/
  | regrade {fuel t rest first s fin} : Run c fuel (.connackRefused 1 t {} :: rest) first s fin →
      Run c (fuel + 1) (.downgrade t :: rest) first s fin

variable {c : Cfg} {fuel : Nat} {script rest : List Outcome} {o : Outcome} {first : Bool} {s s1 fin : St}

/-- an iteration after its attempt: exit test, back-off wait, next iteration -/
theorem Run.tail {ok w : Bool} {rc rc' : Int} (ih : ∀ s', Run c fuel rest false s' (run c fuel rest false s'))
    (h : Ext (s.emit (.attempt s.now ok)) s1) (hst : Stamped s1) (hreg : RegOK c s.delay → RegOK c s1.delay) :
    Run c (fuel + 1) (o :: rest) first s
      (if s1.disconnected ∨ !c.rof then s1.emit (.ret rc')
       else if (reconnectWait c s1 w).disconnected then (reconnectWait c s1 w).emit (.ret rc)
       else run c fuel rest false (reconnectWait c s1 w)) := by
  split
  · exact .stop ok _ h rfl nofun
  · rename_i hc
    have hd : s1.disconnected = false := Bool.eq_false_iff.2 (not_or.1 hc).1
    split
    · exact .stop ok _ (h.wait c w) rfl nofun
    · rename_i hw
      -- a disconnect() during the wait would have ended the run
      cases w
      · rw [rw_false c s1 hd]
        exact .wait ok (by simpa using (not_or.1 hc).2) h hd hst hreg (ih _)
      · rw [rw_true c s1 hd] at hw
        exact absurd rfl hw

theorem run_Run (c : Cfg) : ∀ fuel script first s, Run c fuel script first s (run c fuel script first s)
  | 0, script, first, s => run_zero c s first script ▸ .noFuel
  | fuel + 1, [], first, s => .noScript
  | fuel + 1, o :: rest, first, s => by
    have ih := run_Run c fuel
    by_cases ho : IsConn o
    · rw [run_conn _ _ _ _ _ _ ho]
      exact .tail (ih rest false) (connLife_ext ..) (connLife_stamped _ _ _ ho)
        (connLife_reg c (s.emit (.attempt s.now true)) o)
    · cases o with
      | refuse d =>
        have h : Ext (s.emit (.attempt s.now false)) ((s.emit (.attempt s.now false)).emit (.onConnectFail s.now)) :=
          (Ext.refl _).emit _ rfl
        have h2 := ite_of d.inConnectFail (h.disc s.now) h
        rw [run_refuse]
        dsimp only
        by_cases hf : first = true ∧ (!c.retryFirst) = true
        · rw [if_pos hf]
          exact .stop false .raised h2 rfl fun _ => by simpa using hf
        · rw [if_neg hf]
          exact .tail (ih rest false) h2 (ite_of _ (.emit rfl) (.emit rfl))
            (ite_of (P := fun s' : St => RegOK c s.delay → RegOK c s'.delay) _ id id)
      | downgrade t =>
        have h : Ext (s.emit (.attempt s.now true)) { s.emit (.attempt s.now true) with now := s.now + t, proto := 3 } :=
          (Ext.refl _).set rfl rfl
        rw [run_downgrade]
        split
        · rename_i hp
          split
          · exact .stop true _ (h.disc _) rfl nofun
          · exact .downgrade hp.2 (ih ..)
        · split
          · exact .stop true _ (((Ext.refl _).set rfl rfl).emit _ rfl) rfl nofun
          · exact .regrade (ih ..)
      | preDisc => exact .preDisc
      | _ => exact (ho trivial).elim

theorem runScript_Run (c : Cfg) (script : List Outcome) :
    Run c (2 * script.length + 1) script true { proto := c.proto } (runScript c script) :=
  run_Run ..

/-- shape of the log of a run entered with `disconnected = false`: a part without user disconnects, then a part
without attempts which, if non-empty, ends the run (`ret` / `raised`) -/
def Struct (base l : List Obs) : Prop :=
  ∃ pre post, l = base ++ (pre ++ post) ∧ pre.all (fun e => !isUD e) = true ∧ post.all (fun e => !isAtt e) = true ∧
    (post = [] ∨ ∃ e, post.getLast? = some e ∧ isEndE e = true)

theorem Struct.step {base l : List Obs} (m : List Obs) (h : Struct (base ++ m) l)
    (hm : m.all (fun e => !isUD e) = true) : Struct base l := by
  obtain ⟨pre, post, hl, hpre, hpost, hend⟩ := h
  exact ⟨m ++ pre, post, by simp [hl], by simp [List.all_append, hm, hpre], hpost, hend⟩

theorem isEndE_not_isAtt {e : Obs} (he : isEndE e = true) : (!isAtt e) = true := by
  cases e <;> first | rfl | cases he

theorem Struct.close {base l : List Obs} (pre post : List Obs) (e : Obs) (hl : l = base ++ pre ++ post ++ [e])
    (hpre : pre.all (fun e => !isUD e) = true) (hpost : post.all (fun e => !isAtt e) = true) (he : isEndE e = true) :
    Struct base l :=
  ⟨pre, post ++ [e], by rw [hl, List.append_assoc, List.append_assoc], hpre,
    by rw [List.all_append, hpost, List.all_cons, isEndE_not_isAtt he]; rfl, .inr ⟨e, List.getLast?_concat, he⟩⟩

theorem Run.struct (h : Run c fuel script first s fin) (hs : s.disconnected = false) : Struct s.log fin.log := by
  induction h with
  | noFuel | noScript => exact ⟨[_], [], rfl, rfl, rfl, .inl rfl⟩
  | stop ok e h he =>
    obtain ⟨evs, hlog, hatt, -⟩ := h
    exact .close [_] evs e (by rw [emit_log, hlog]; rfl) rfl hatt he
  | @preDisc _ _ _ s => exact .close [] [.userDisconnect s.now] (.ret 7) (by simp) rfl rfl rfl
  | wait ok _ h hd _ _ _ ih =>
    obtain ⟨evs, hlog, -, -, hud⟩ := h
    exact .step [.attempt _ ok] (.step evs (hlog ▸ ih hd) (hud hd).2) rfl
  | downgrade _ _ ih => exact .step [_] (ih hs) rfl
  | regrade _ ih => exact ih hs

theorem Struct.final {l : List Obs} (h : Struct [] l) (i j t t' : Nat) (ok : Bool)
    (hi : l[i]? = some (.userDisconnect t)) (hj : l[j]? = some (.attempt t' ok)) : j < i := by
  obtain ⟨pre, post, rfl, hpre, hpost, -⟩ := h
  rw [List.nil_append] at hi hj
  rw [List.all_eq_true] at hpre hpost
  by_cases hip : i < pre.length
  · rw [List.getElem?_append_left hip] at hi
    have := hpre _ (List.mem_of_getElem? hi)
    simp [isUD] at this
  · by_cases hjp : j < pre.length
    · omega
    · rw [List.getElem?_append_right (by omega)] at hj
      have := hpost _ (List.mem_of_getElem? hj)
      simp [isAtt] at this

theorem Struct.returns {l : List Obs} (h : Struct [] l) (hu : l.any isUD = true) :
    ∃ e, l.getLast? = some e ∧ isEndE e = true := by
  obtain ⟨pre, post, rfl, hpre, hpost, hend⟩ := h
  rcases hend with rfl | ⟨e, he, hee⟩
  · rw [List.any_eq_true] at hu
    rw [List.all_eq_true] at hpre
    obtain ⟨x, hx, hxu⟩ := hu
    have := hpre x (by simpa using hx)
    simp [hxu] at this
  · exact ⟨e, by simp [List.getLast?_append, he], hee⟩

def GapOK (c : Cfg) (l : List Obs) : Prop :=
  ∀ i x t t' ok, l[i]? = some x → isAtt x = false → obsTime x = some t → l[i + 1]? = some (.attempt t' ok) →
    t + c.minDelay * 1000 ≤ t' ∧ t' ≤ t + c.maxDelay * 1000

def LastOK (c : Cfg) (l : List Obs) (now : Nat) : Prop :=
  ∀ x t, l.getLast? = some x → isAtt x = false → obsTime x = some t →
    t + c.minDelay * 1000 ≤ now ∧ now ≤ t + c.maxDelay * 1000

section
variable {l : List Obs}

/-- one more entry: only an attempt has anything to meet -/
theorem GapOK.snoc (h : GapOK c l) (y : Obs) (hy : ∀ t' ok, y = .attempt t' ok → LastOK c l t') :
    GapOK c (l ++ [y]) := by
  intro i x t t' ok hx hxa hxt hy'
  have hi : i + 1 < l.length + 1 := by
    have := (List.getElem?_eq_some_iff.1 hy').1
    rwa [List.length_append] at this
  rw [List.getElem?_append_left (Nat.lt_of_succ_lt_succ hi)] at hx
  rcases Nat.lt_or_ge (i + 1) l.length with hlt | hge
  · rw [List.getElem?_append_left hlt] at hy'
    exact h i x t t' ok hx hxa hxt hy'
  · have hlen : l.length = i + 1 := Nat.le_antisymm hge (Nat.le_of_lt_succ hi)
    rw [List.getElem?_append_right hge, hlen, Nat.sub_self] at hy'
    refine hy t' ok (Option.some.inj hy') x t ?_ hxa hxt
    rw [List.getLast?_eq_getElem?, hlen]; exact hx

theorem GapOK.append_noatt (h : GapOK c l) (m : List Obs) (hm : m.all (fun e => !isAtt e) = true) :
    GapOK c (l ++ m) := by
  induction m generalizing l with
  | nil => rwa [List.append_nil]
  | cons y m ih =>
    rw [List.all_cons, Bool.and_eq_true] at hm
    rw [List.append_cons]
    exact ih (h.snoc y fun t' ok e => by rw [e] at hm; cases hm.1) hm.2

theorem GapOK.snoc_att {now : Nat} {ok : Bool} (h : GapOK c l) (hl : LastOK c l now) :
    GapOK c (l ++ [.attempt now ok]) :=
  h.snoc _ fun _ _ e => (Obs.attempt.inj e).1 ▸ hl

end

theorem LastOK.of_att {l : List Obs} {a : Nat} {ok : Bool} {now : Nat} : LastOK c (l ++ [.attempt a ok]) now := by
  intro x t hx hxa
  rw [List.getLast?_concat] at hx
  cases hx; cases hxa

theorem GapOK.nil (c : Cfg) : GapOK c [] := by
  intro i x t t' ok hx; cases hx

theorem LastOK.nil (c : Cfg) (now : Nat) : LastOK c [] now := by
  intro x t hx; cases hx

theorem Run.gap (hc : c.minDelay ≤ c.maxDelay) (h : Run c fuel script first s fin)
    (hreg : RegOK c s.delay) (hg : GapOK c s.log) (hl : LastOK c s.log s.now) : GapOK c fin.log := by
  induction h with
  | noFuel | noScript => exact hg.append_noatt [_] rfl
  | stop ok e h he =>
    obtain ⟨evs, hlog, hatt, -⟩ := h
    rw [emit_log, hlog]
    exact ((hg.snoc_att hl).append_noatt evs hatt).append_noatt [e] (by rw [List.all_cons, isEndE_not_isAtt he]; rfl)
  | preDisc => exact (hg.append_noatt [_] rfl).append_noatt [_] rfl
  | wait _ _ h _ hst hreg1 _ ih =>
    obtain ⟨evs, hlog, hatt, -⟩ := h
    have hb := delayNext_bounds c hc _ (hreg1 hreg)
    refine ih (fun x hx => Option.some.inj hx ▸ hb) (hlog ▸ (hg.snoc_att hl).append_noatt evs hatt) ?_
    -- the last event carries the time at which the wait began
    obtain ⟨e, hel, het⟩ := hst
    intro x t hx hxa hxt
    cases hel.symm.trans hx
    cases het.symm.trans hxt
    exact ⟨Nat.add_le_add_left (Nat.mul_le_mul_right _ hb.1) _, Nat.add_le_add_left (Nat.mul_le_mul_right _ hb.2) _⟩
  | downgrade _ _ ih => exact ih hreg (hg.snoc_att hl) LastOK.of_att
  | regrade _ ih => exact ih hreg hg hl

theorem Run.grows (h : Run c fuel script first s fin) :
    ∃ evs, fin.log = s.log ++ evs ∧ ((first = false ∨ c.retryFirst = true) → Obs.raised ∉ evs) := by
  induction h with
  | noFuel | noScript => exact ⟨[.scriptEnd], rfl, fun _ => by simp⟩
  | @stop _ _ _ first s ok _ e h he hr =>
    obtain ⟨evs, hlog, -, hra, -⟩ := h
    refine ⟨.attempt s.now ok :: (evs ++ [e]), by simp [hlog], fun hf => ?_⟩
    have : e ≠ .raised := by
      rintro rfl
      obtain ⟨rfl, h2⟩ := hr rfl
      simp [h2] at hf
    simp [hra, this.symm]
  | @preDisc _ _ _ s => exact ⟨[.userDisconnect s.now, .ret 7], by simp, fun _ => by simp⟩
  | @wait _ _ _ _ s _ ok _ _ h _ _ _ _ ih =>
    obtain ⟨evs, hlog, -, hra, -⟩ := h
    obtain ⟨evs', hlog', hra'⟩ := ih
    exact ⟨.attempt s.now ok :: (evs ++ evs'), by simp [hlog', hlog], fun _ => by simp [hra, hra']⟩
  | @downgrade _ _ _ _ s _ _ _ ih =>
    obtain ⟨evs', hlog', hra'⟩ := ih
    exact ⟨.attempt s.now true :: evs', by simp [hlog'], fun _ => by simp [hra']⟩
  | regrade _ ih => exact ih

/-- conclusion of the `reconnect_on_failure = False` property, relative to the incoming log -/
def OneShot (base l : List Obs) : Prop :=
  ∃ evs, l = base ++ evs ∧ (evs.filter isAtt).length ≤ 1 ∧ ∃ e, evs.getLast? = some e ∧ isEndE e = true

/-- without reconnect_on_failure an iteration ends the run, unless it only turns `downgrade` into a refused CONNACK -/
theorem Run.oneShot_or (hc : c.rof = false) (h : Run c (fuel + 1) (o :: rest) first s fin) :
    OneShot s.log fin.log ∨ ∃ t, o = .downgrade t ∧ Run c fuel (.connackRefused 1 t {} :: rest) first s fin := by
  cases h with
  | stop ok e h he =>
    obtain ⟨evs, hlog, hatt, -⟩ := h
    refine .inl ⟨(.attempt s.now ok :: evs) ++ [e], by simp [hlog], ?_, e, List.getLast?_concat, he⟩
    have hnil : evs.filter isAtt = [] := List.filter_eq_nil_iff.2 fun a ha => Bool.not_eq.1 (List.all_eq_true.1 hatt a ha)
    rw [List.filter_append, List.filter_cons_of_pos rfl, hnil, List.filter_cons_of_neg (Bool.not_eq.1 (isEndE_not_isAtt he))]
    exact Nat.le_refl 1
  | preDisc => exact .inl ⟨[.userDisconnect s.now, .ret 7], by simp, Nat.zero_le 1, _, rfl, rfl⟩
  | wait _ h | downgrade h => rw [hc] at h; cases h
  | regrade h => exact .inr ⟨_, rfl, h⟩

theorem Run.oneShot (hc : c.rof = false) (h : Run c (fuel + 2) (o :: rest) first s fin) : OneShot s.log fin.log := by
  rcases h.oneShot_or hc with h | ⟨t, -, h⟩
  · exact h
  · rcases h.oneShot_or hc with h | ⟨t, ht, -⟩
    · exact h
    · cases ht

end Paho.LFLemmas
