/-
The log invariants `InvL` of the session model, kept by every atomic action of `SessionAct.lean` given the state
invariants `InvS`.
-/
import Paho.Model.SessionInv
import PahoProofs.Lemmas.SessionDefs
import PahoProofs.Lemmas.SessionActLog

namespace Paho
namespace SessAct

variable {v v' : View}

theorem txOf_cons_tx (c : Nat) (b : Bytes) (l : List Ev) : txOf c (.tx c b :: l) = b ++ txOf c l := if_pos rfl

theorem queuedOf_cons_queued (c : Nat) (b : Bytes) (l : List Ev) :
    queuedOf c (.queued c b :: l) = b ++ queuedOf c l := if_pos rfl

theorem txOf_single (c : Nat) (b : Bytes) : txOf c [.tx c b] = b :=
  (txOf_cons_tx c b []).trans (List.append_nil b)

theorem queuedOf_single (c : Nat) (b : Bytes) : queuedOf c [.queued c b] = b :=
  (queuedOf_cons_queued c b []).trans (List.append_nil b)

theorem txOf_cons_of_ne {c : Nat} {e : Ev} (l : List Ev) (h : ∀ b, e ≠ .tx c b) :
    txOf c (e :: l) = txOf c l := by
  cases e with
  | tx c' b => exact if_neg fun (hc : c' = c) => h b (hc ▸ rfl)
  | _ => rfl

theorem queuedOf_cons_of_ne {c : Nat} {e : Ev} (l : List Ev) (h : ∀ b, e ≠ .queued c b) :
    queuedOf c (e :: l) = queuedOf c l := by
  cases e with
  | queued c' b => exact if_neg fun (hc : c' = c) => h b (hc ▸ rfl)
  | _ => rfl

theorem txOf_eq_nil {c : Nat} {l : List Ev} (h : ∀ b, Ev.tx c b ∉ l) : txOf c l = [] := by
  induction l with
  | nil => rfl
  | cons e l ih =>
    rw [txOf_cons_of_ne l fun b he => h b (he ▸ List.mem_cons_self), ih fun b hb => h b (List.mem_cons_of_mem _ hb)]

theorem queuedOf_eq_nil {c : Nat} {l : List Ev} (h : ∀ b, Ev.queued c b ∉ l) : queuedOf c l = [] := by
  induction l with
  | nil => rfl
  | cons e l ih =>
    rw [queuedOf_cons_of_ne l fun b he => h b (he ▸ List.mem_cons_self),
      ih fun b hb => h b (List.mem_cons_of_mem _ hb)]

theorem txOf_append (c : Nat) (l1 l2 : List Ev) : txOf c (l1 ++ l2) = txOf c l1 ++ txOf c l2 := by
  induction l1 with
  | nil => rfl
  | cons e l ih =>
    by_cases h : ∃ b, e = .tx c b
    · obtain ⟨b, rfl⟩ := h
      rw [List.cons_append, txOf_cons_tx, txOf_cons_tx, ih, List.append_assoc]
    · have h' : ∀ b, e ≠ .tx c b := fun b hb => h ⟨b, hb⟩
      rw [List.cons_append, txOf_cons_of_ne _ h', txOf_cons_of_ne _ h', ih]

theorem queuedOf_append (c : Nat) (l1 l2 : List Ev) :
    queuedOf c (l1 ++ l2) = queuedOf c l1 ++ queuedOf c l2 := by
  induction l1 with
  | nil => rfl
  | cons e l ih =>
    by_cases h : ∃ b, e = .queued c b
    · obtain ⟨b, rfl⟩ := h
      rw [List.cons_append, queuedOf_cons_queued, queuedOf_cons_queued, ih, List.append_assoc]
    · have h' : ∀ b, e ≠ .queued c b := fun b hb => h ⟨b, hb⟩
      rw [List.cons_append, queuedOf_cons_of_ne _ h', queuedOf_cons_of_ne _ h', ih]

theorem pendingBytes_append (q1 q2 : List OutPkt) :
    pendingBytes (q1 ++ q2) = pendingBytes q1 ++ pendingBytes q2 := by
  simp [pendingBytes]

theorem pendingBytes_cons (p : OutPkt) (q : List OutPkt) :
    pendingBytes (p :: q) = p.bytes.drop p.pos ++ pendingBytes q := by
  simp [pendingBytes]

structure InvL (v : View) : Prop where
  /-- every connection number in the log has been allocated -/
  evle : ∀ e ∈ v.log, evConn e ≤ v.nconn
  /-- C06, for the open connection -/
  stream : ∀ c, v.sock = some c → txOf c v.log ++ pendingBytes v.outq = queuedOf c v.log
  /-- a closed connection is never the current one again -/
  closed : ∀ c r, Ev.sclose c r ∈ v.log → v.sock ≠ some c
  /-- no tx on c after a close of c -/
  pair : v.log.Pairwise (fun e1 e2 => ∀ c r b, e1 = Ev.sclose c r → e2 ≠ Ev.tx c b)
  pref : ∀ c, v.sock ≠ some c → txOf c v.log <+: queuedOf c v.log

theorem invL_prefix (h : InvL v) (c : Nat) : txOf c v.log <+: queuedOf c v.log := by
  by_cases hc : v.sock = some c
  · rw [← h.stream c hc]; exact List.prefix_append _ _
  · exact h.pref c hc

theorem InvL.pref_append (hi : InvL v) (c : Nat) {evs : List Ev} (htx : ∀ b, Ev.tx c b ∉ evs) :
    txOf c (v.log ++ evs) <+: queuedOf c (v.log ++ evs) := by
  rw [txOf_append, txOf_eq_nil htx, List.append_nil, queuedOf_append]
  exact (invL_prefix hi c).trans (List.prefix_append _ _)

theorem pair_append {l evs : List Ev}
    (h : l.Pairwise (fun e1 e2 => ∀ c r b, e1 = Ev.sclose c r → e2 ≠ Ev.tx c b))
    (he : ∀ c r b, Ev.sclose c r ∈ l ++ evs → Ev.tx c b ∉ evs) :
    (l ++ evs).Pairwise (fun e1 e2 => ∀ c r b, e1 = Ev.sclose c r → e2 ≠ Ev.tx c b) := by
  rw [List.pairwise_append]
  refine ⟨h, List.pairwise_of_forall_mem_list ?_, ?_⟩
  · intro e1 h1 e2 h2 c r b e1c e2t
    exact he c r b (List.mem_append_right l (e1c ▸ h1)) (e2t ▸ h2)
  · intro e1 h1 e2 h2 c r b e1c e2t
    exact he c r b (List.mem_append_left evs (e1c ▸ h1)) (e2t ▸ h2)

/-- An action that keeps the socket; `hst`: its events balance the change of the queue in the stream equation. -/
theorem InvL.sameSock (hi : InvL v) (evs : List Ev)
    (hs : v'.sock = v.sock) (hn : v'.nconn = v.nconn) (hl : v'.log = v.log ++ evs)
    (hle : ∀ e ∈ evs, evConn e ≤ v.nconn) (hcl : ∀ c r, Ev.sclose c r ∉ evs)
    (htx : ∀ c b, Ev.tx c b ∈ evs → v.sock = some c)
    (hst : ∀ c, v.sock = some c →
      txOf c evs ++ pendingBytes v'.outq = pendingBytes v.outq ++ queuedOf c evs) : InvL v' := by
  -- a close in the new log is a close in the old one
  have hold : ∀ c r, Ev.sclose c r ∈ v.log ++ evs → v.sock ≠ some c := fun c r h =>
    hi.closed c r ((List.mem_append.1 h).resolve_right (hcl c r))
  refine ⟨hl ▸ hn ▸ evle_append hi.evle (Nat.le_refl _) hle, ?_, fun c r h => hs ▸ hold c r (hl ▸ h),
    hl ▸ pair_append hi.pair fun c r b h hb => hold c r h (htx c b hb),
    fun c h => hl ▸ hi.pref_append c fun b hb => hs ▸ h <| htx c b hb⟩
  intro c h
  rw [hs] at h
  rw [hl, txOf_append, queuedOf_append, List.append_assoc, hst c h, ← List.append_assoc, hi.stream c h]

theorem InvL.quiet (hi : InvL v) (evs : List Ev)
    (hs : v'.sock = v.sock) (hq : v'.outq = v.outq) (hn : v'.nconn = v.nconn)
    (hl : v'.log = v.log ++ evs) (hle : ∀ e ∈ evs, evConn e ≤ v.nconn)
    (htx : ∀ c b, Ev.tx c b ∉ evs) (hqu : ∀ c b, Ev.queued c b ∉ evs) (hcl : ∀ c r, Ev.sclose c r ∉ evs) :
    InvL v' :=
  hi.sameSock evs hs hn hl hle hcl (fun c b h => absurd h (htx c b)) fun c _ => by
    rw [txOf_eq_nil (htx c), queuedOf_eq_nil (hqu c), hq, List.append_nil]; rfl

/-- An action that closes the socket or replaces it by one with a fresh number. -/
theorem InvL.newSock (hi : InvL v) (evs : List Ev) (hl : v'.log = v.log ++ evs)
    (hn : v.nconn ≤ v'.nconn) (hle : ∀ e ∈ evs, evConn e ≤ v'.nconn) (htx : ∀ c b, Ev.tx c b ∉ evs)
    (hnew : ∀ c, v'.sock = some c →
      v.nconn < c ∧ (∀ r, Ev.sclose c r ∉ evs) ∧ pendingBytes v'.outq = queuedOf c evs) : InvL v' := by
  -- the old log does not mention a new connection
  have hold : ∀ c, v.nconn < c → ∀ e ∈ v.log, evConn e ≠ c := fun c hc e he =>
    Nat.ne_of_lt (Nat.lt_of_le_of_lt (hi.evle e he) hc)
  refine ⟨hl ▸ evle_append hi.evle hn hle, ?_, ?_, hl ▸ pair_append hi.pair fun c r b _ => htx c b,
    fun c _ => hl ▸ hi.pref_append c (htx c)⟩
  · intro c h
    obtain ⟨hc, _, hp⟩ := hnew c h
    rw [hl, txOf_append, txOf_eq_nil (htx c), queuedOf_append, hp,
      txOf_eq_nil fun b hb => hold c hc _ hb rfl, queuedOf_eq_nil fun b hb => hold c hc _ hb rfl]
    rfl
  · intro c r h hs
    obtain ⟨hc, hcl, _⟩ := hnew c hs
    rcases List.mem_append.1 (hl ▸ h) with h | h
    · exact hold c hc _ h rfl
    · exact hcl r h

theorem InvL.noSock (hi : InvL v) (hs : v'.sock = none) (hn : v'.nconn = v.nconn)
    (hl : v'.log = v.log) : InvL v' :=
  hi.newSock [] (hl.trans (List.append_nil _).symm) (Nat.le_of_eq hn.symm) (fun _ h => absurd h List.not_mem_nil)
    (fun _ _ => List.not_mem_nil) fun _ h => nomatch hs.symm.trans h

theorem invL_reg (hs : InvS v) (hi : InvL v) : InvL (vRegW v) ∧ InvL (vUnregW v) := by
  refine reg_cases hi fun c b hc _ => hi.quiet _ rfl rfl rfl rfl ?_ ?_ ?_ ?_
  · intro x hx
    rcases mem_regEvs hx with rfl | rfl <;> exact hs.nconn c hc
  all_goals
    intro _ _ hx
    rcases mem_regEvs hx with h | h <;> cases h

theorem invL_vSockClose (hn : ∀ c, v.sock = some c → c ≤ v.nconn) (hi : InvL v) (r : Bool) :
    InvL (vSockClose v r) := by
  cases hc : v.sock with
  | none => rw [vSockClose_none hc]; exact hi
  | some c =>
    rw [vSockClose_some hc]
    exact hi.newSock (closeEvs v c r) rfl (Nat.le_refl _) (fun e he => Nat.le_trans (closeEvs_evConn he) (hn c hc))
      (fun _ _ h => by rcases mem_closeEvs h with h | h | h | h <;> cases h) nofun

theorem invL_vEnq (hs : InvS v) (hi : InvL v) (pkt : OutPkt) (hp : pkt.pos = 0) :
    InvL (vEnq v pkt) := by
  cases hc : v.sock with
  | none => rw [vEnq_none hc]; exact hi.noSock hc rfl rfl
  | some c =>
    refine hi.sameSock [Ev.queued c pkt.bytes] rfl rfl (vEnq_log hc pkt)
      (List.forall_mem_singleton.2 (hs.nconn c hc)) (by simp) (by simp) fun c' hc' => ?_
    cases hc.symm.trans hc'
    rw [queuedOf_single]
    show pendingBytes (v.outq ++ [pkt]) = _
    rw [pendingBytes_append, pendingBytes_cons, hp]
    exact congrArg _ (List.append_nil _)

theorem invL_vWrite (hs : InvS v) (hi : InvL v) (pkt : OutPkt) (rest : List OutPkt) (k : Nat)
    (hq : v.outq = pkt :: rest) : InvL (vWrite v pkt rest k) := by
  cases hc : v.sock with
  | none => rw [vWrite_none hc]; exact hi.noSock hc rfl rfl
  | some c =>
    refine hi.sameSock [Ev.tx c ((pkt.bytes.drop pkt.pos).take k)] rfl rfl (vWrite_log hc pkt rest k)
      (List.forall_mem_singleton.2 (hs.nconn c hc)) (by simp) ?_ ?_
    · intro c' b he
      cases List.mem_singleton.1 he
      exact hc
    · intro c' hc'
      cases hc.symm.trans hc'
      -- the `k` bytes written and what is left of `pkt` are what was pending of `pkt`
      have hsplit : (pkt.bytes.drop pkt.pos).take k
          ++ pendingBytes (if pkt.pos + k = pkt.bytes.length then rest else { pkt with pos := pkt.pos + k } :: rest)
          = pkt.bytes.drop pkt.pos ++ pendingBytes rest := by
        split
        · rw [List.take_of_length_le (by rw [List.length_drop]; omega)]
        · rw [pendingBytes_cons, ← List.append_assoc, ← List.drop_drop, List.take_append_drop]
      rw [txOf_single, hq, pendingBytes_cons, queuedOf_eq_nil (by simp), List.append_nil]
      exact hsplit

theorem queuedOf_openEvs {pkt : Option OutPkt} (hp : ∀ p, pkt = some p → p.pos = 0) :
    queuedOf (v.nconn + 1) (openEvs v pkt) = pendingBytes pkt.toList := by
  show queuedOf _ (_ ++ _) = _
  rw [queuedOf_append,
    queuedOf_eq_nil fun b hb => by rcases mem_callback hb with h | h <;> cases h]
  cases pkt with
  | none => rfl
  | some p => simp [queuedOf, pendingBytes, hp p rfl]

theorem invL_vOpen (hi : InvL v) (pkt : Option OutPkt)
    (hp : ∀ p, pkt = some p → p.pos = 0) : InvL (vOpen v pkt) := by
  refine hi.newSock (openEvs v pkt) (vOpen_log v pkt) (Nat.le_succ _) (fun e => openEvs_evConn) ?_ ?_
  · intro c b he
    rcases mem_openEvs he with h | h | h | ⟨_, _, h⟩ | h <;> cases h
  · intro c hc
    cases (Option.some.inj hc : v.nconn + 1 = c)
    refine ⟨Nat.lt_succ_self _, fun r he => ?_, (queuedOf_openEvs hp).symm⟩
    rcases mem_openEvs he with h | h | h | ⟨_, _, h⟩ | h <;> cases h

theorem invL_onDisconnect (hi : InvL v) (x : ConnState) (n : Nat) (b : Bool) :
    InvL { v with cstate := x, log := v.log ++ [Ev.onDisconnect n b] } :=
  hi.quiet [Ev.onDisconnect n b] rfl rfl rfl rfl (by simp [evConn]) (by simp) (by simp) (by simp)

theorem Act.invL {k : Kind} (h : Act k v v') (hs : InvS v) (hi : InvL v) : InvL v' := by
  cases h with
  | emit _ evs hn =>
    exact hi.quiet evs rfl rfl rfl rfl (fun e he => neutral_evConn (hn e he) ▸ Nat.zero_le _)
      (fun _ _ he => nomatch hn _ he) (fun _ _ he => nomatch hn _ he) (fun _ _ he => nomatch hn _ he)
  | regW => exact (invL_reg hs hi).1
  | unregW => exact (invL_reg hs hi).2
  | enq _ pkt hf => exact invL_vEnq hs hi pkt hf.1
  | write _ pkt rest k hq => exact invL_vWrite hs hi pkt rest k hq
  | writeDisc _ pkt rest k _ hq =>
    exact invL_onDisconnect (invL_vSockClose (v := vWrite v pkt rest k) hs.nconn
      (invL_vWrite hs hi pkt rest k hq) false) _ _ _
  | closeLost | closeBroker => exact invL_onDisconnect (invL_vSockClose hs.nconn hi false) _ _ _
  | closeReplace _ x =>
    exact invL_vSockClose (v := { v with cstate := x }) hs.nconn { hi with } true
  | clearQ _ hn => exact hi.noSock hn rfl rfl
  | openConnect _ pkt _ _ _ hp => exact invL_vOpen hi (some pkt) (fun p h => by cases h; exact hp.1)
  | openNoConnect => exact invL_vOpen hi none nofun
  -- the other actions leave the socket, the queue, the connection count and the log alone
  | _ => exact { hi with }

/-- `hS` is `Act.invS` of the sibling `SessionInvState.lean`, not imported here. -/
theorem Path.invL {P : Kind → Bool} {v v' : View} (h : Path P v v')
    (hS : ∀ {k a b}, Act k a b → InvS a → InvS b) (hs : InvS v) (hi : InvL v) : InvL v' := by
  induction h with
  | refl _ => exact hi
  | cons ha _ _ ih => exact ih (hS ha hs) (ha.invL hs hi)

theorem invL_stream {s : S} (h : InvL (view s)) : invStream s = true := by
  unfold invStream
  split
  · rfl
  · rename_i c hc
    have := h.stream c hc
    simpa [pendingBytes] using this

theorem invL_no_tx_after_close (h : InvL v) (c i j : Nat) (b : Bytes) (r : Bool) :
    v.log[i]? = some (Ev.sclose c r) → v.log[j]? = some (Ev.tx c b) → j < i := by
  intro h1 h2
  rcases List.getElem?_eq_some_iff.mp h1 with ⟨hi', e1⟩
  rcases List.getElem?_eq_some_iff.mp h2 with ⟨hj', e2⟩
  rcases Nat.lt_trichotomy j i with hlt | heq | hgt
  · exact hlt
  · subst heq; rw [e1] at e2; cases e2
  · exact absurd e2 ((List.pairwise_iff_getElem.mp h.pair) i j hi' hj' hgt c r b e1)

end SessAct
end Paho
