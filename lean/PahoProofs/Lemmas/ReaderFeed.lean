/-
For C05 part 1: a byte-at-a-time reference automaton `feed` over the reader state `RState`. It is fed the plain byte
stream (no chunks, no would-block) and emits every packet as soon as its last byte has arrived. A call of the reader
leaves what the automaton computes from the state and the bytes still to come unchanged, up to the packet the call
hands over (`ReaderGen.packetReadOn_sound`, for any transport). Here: the automaton, and what it does in each phase.
-/
import PahoProofs.Lemmas.ReaderDefs

namespace Paho.ReaderLemmas
open Paho

/-- what one byte does: the automaton goes on in state `r`, hands over a packet (and starts afresh), or stops -/
inductive FeedRes where
  | cont (r : RState)
  | emit (cmd : Nat) (body : Bytes)
  | protocol

/-- how the automaton leaves a byte stream: read to the end (maybe inside a packet), or stopped at a protocol error -/
inductive StreamEnd where
  | ok | protocol
  deriving DecidableEq, Repr

/-- consume one byte in state `r` (never called on a state holding a complete packet); a zero command byte
(reserved packet type 0) is a protocol error at once -/
def feedByte (r : RState) (b : UInt8) : FeedRes :=
  if r.command = 0 then
    if b.toNat = 0 then .protocol else .cont { r with command := b.toNat }
  else if r.haveRemaining = false then
    if r.remCount + 1 > 4 then .protocol
    else
      let r' := { r with remCount := r.remCount + 1, remLen := r.remLen + (b.toNat &&& 127) * r.remMult,
                         remMult := r.remMult * 128 }
      if b.toNat &&& 128 = 0 then
        if r'.remLen = 0 then .emit r.command r.packet
        else .cont { r' with haveRemaining := true, toProcess := r'.remLen }
      else .cont r'
  else
    if r.toProcess - 1 = 0 then .emit r.command (r.packet ++ [b])
    else .cont { r with toProcess := r.toProcess - 1, packet := r.packet ++ [b] }

def feed : RState → Bytes → List (Nat × Bytes) → List (Nat × Bytes) × StreamEnd
  | _, [], acc => (acc, .ok)
  | r, b :: bs, acc =>
    match feedByte r b with
    | .cont r' => feed r' bs acc
    | .emit c body => feed {} bs (acc ++ [(c, body)])
    | .protocol => (acc, .protocol)

/-- the reader holds a complete packet (possible between two calls only after the 100-read guard fired) -/
def full (r : RState) : Prop := r.haveRemaining = true ∧ r.toProcess = 0

instance (r : RState) : Decidable (full r) := by unfold full; infer_instance

/-- what the automaton computes from a reader state as left by a `packetRead` call -/
def Ref (r : RState) (bs : Bytes) (acc : List (Nat × Bytes)) : List (Nat × Bytes) × StreamEnd :=
  if full r then feed {} bs (acc ++ [(r.command, r.packet)]) else feed r bs acc

theorem not_full_init : ¬ full {} := by simp [full]

theorem toNat_ne_zero {b : UInt8} (h : b ≠ 0) : b.toNat ≠ 0 := fun h0 => h (UInt8.toNat_inj.mp h0)

section
variable {r : RState} {b : UInt8} {bs : Bytes} {acc : List (Nat × Bytes)}

theorem Ref_not_full (h : ¬ full r) : Ref r bs acc = feed r bs acc := if_neg h

theorem Ref_full (h : full r) : Ref r bs acc = feed {} bs (acc ++ [(r.command, r.packet)]) := if_pos h

theorem Ref_init : Ref {} bs acc = feed {} bs acc := Ref_not_full not_full_init

theorem feedByte_cmd (h0 : r.command = 0) :
    feedByte r b = if b.toNat = 0 then .protocol else .cont { r with command := b.toNat } := by
  simp [feedByte, h0]

def lenStep (r : RState) (b : UInt8) : RState :=
  { r with remCount := r.remCount + 1, remLen := r.remLen + (b.toNat &&& 127) * r.remMult, remMult := r.remMult * 128 }

theorem feedByte_len (hc : r.command ≠ 0) (hh : r.haveRemaining = false) :
    feedByte r b =
      if r.remCount + 1 > 4 then .protocol
      else if b.toNat &&& 128 = 0 then
        if r.remLen + (b.toNat &&& 127) * r.remMult = 0 then .emit r.command r.packet
        else .cont { lenStep r b with haveRemaining := true, toProcess := (lenStep r b).remLen }
      else .cont (lenStep r b) := by
  simp [feedByte, hc, hh, lenStep]

/-- the reader's guard against a fifth length byte (`readRemLen`) is the automaton's `r.remCount + 1 > 4` -/
theorem rlMax_eval (a : Nat) : Gen.rlMaxBytesCmp.evalNat a Gen.rlMaxBytes = decide (a > 4) := by
  simp [Gen.rlMaxBytesCmp, Gen.rlMaxBytes, Cmp.evalNat]

theorem feedByte_body (hc : r.command ≠ 0) (hh : r.haveRemaining = true) :
    feedByte r b =
      if r.toProcess - 1 = 0 then .emit r.command (r.packet ++ [b])
      else .cont { r with toProcess := r.toProcess - 1, packet := r.packet ++ [b] } := by
  simp [feedByte, hc, hh]

theorem feed_cons :
    feed r (b :: bs) acc =
      match feedByte r b with
      | .cont r' => feed r' bs acc
      | .emit c body => feed {} bs (acc ++ [(c, body)])
      | .protocol => (acc, .protocol) := by
  rw [feed]

theorem feed_cmd (h0 : r.command = 0) :
    feed r (b :: bs) acc = if b.toNat = 0 then (acc, .protocol) else feed { r with command := b.toNat } bs acc := by
  rw [feed_cons, feedByte_cmd h0]
  by_cases hb : b.toNat = 0
  · rw [if_pos hb, if_pos hb]
  · rw [if_neg hb, if_neg hb]

/-- the last length byte starts the body; a zero length completes the packet at once, which is what `Ref` says of the
state with `toProcess = 0` -/
theorem feed_len_step (hc : r.command ≠ 0) (hh : r.haveRemaining = false) :
    feed r (b :: bs) acc =
      if r.remCount + 1 > 4 then (acc, .protocol)
      else if b.toNat &&& 128 = 0 then
        Ref { lenStep r b with haveRemaining := true, toProcess := (lenStep r b).remLen } bs acc
      else feed (lenStep r b) bs acc := by
  rw [feed_cons, feedByte_len hc hh]
  by_cases h4 : r.remCount + 1 > 4
  · rw [if_pos h4, if_pos h4]
  · rw [if_neg h4, if_neg h4]
    by_cases hb : b.toNat &&& 128 = 0
    · rw [if_pos hb, if_pos hb]
      by_cases hz : r.remLen + (b.toNat &&& 127) * r.remMult = 0
      · rw [if_pos hz, Ref_full ⟨rfl, hz⟩]
        rfl
      · rw [if_neg hz, Ref_not_full fun h => hz h.2]
    · rw [if_neg hb, if_neg hb]

end

section body
variable {r : RState} {bs : Bytes} {acc : List (Nat × Bytes)} (hc : r.command ≠ 0) (hh : r.haveRemaining = true)
include hc hh

/-- one body byte; with `Ref` on both sides the byte that completes the packet is no special case -/
theorem Ref_body_byte {b : UInt8} (hp : 0 < r.toProcess) :
    Ref r (b :: bs) acc = Ref { r with toProcess := r.toProcess - 1, packet := r.packet ++ [b] } bs acc := by
  rw [Ref_not_full fun h => Nat.ne_of_gt hp h.2, feed_cons, feedByte_body hc hh]
  by_cases h1 : r.toProcess - 1 = 0
  · rw [if_pos h1, Ref_full (r := { r with toProcess := r.toProcess - 1, packet := r.packet ++ [b] }) ⟨hh, h1⟩]
  · rw [if_neg h1, Ref_not_full fun h => h1 h.2]

theorem Ref_body_chunk {d : Bytes} (hl : d.length ≤ r.toProcess) :
    Ref r (d ++ bs) acc = Ref { r with toProcess := r.toProcess - d.length, packet := r.packet ++ d } bs acc := by
  induction d generalizing r with
  | nil => simp only [List.length_nil, Nat.sub_zero, List.append_nil, List.nil_append]
  | cons b d ih =>
    rw [List.cons_append, Ref_body_byte hc hh (Nat.lt_of_lt_of_le (Nat.succ_pos _) hl),
      ih (r := { r with toProcess := r.toProcess - 1, packet := r.packet ++ [b] }) hc hh (Nat.le_sub_of_add_le hl)]
    simp only [List.length_cons, List.append_assoc, List.singleton_append, Nat.sub_sub, Nat.add_comm 1]

end body

end Paho.ReaderLemmas
