/-
C07, section A (packet ids): the invariant of `MidSys` (the id generator under `_mid_generate_mutex`) over all
schedules.
-/
import PahoProofs.Lemmas.ThrUpd
import PahoProofs.Properties.C14
namespace Paho.Thr.ThrMid
open Paho Paho.Thr

/-- value of `_last_mid` after `n` sequential allocations -/
def midIter : Nat → Nat → Nat
  | l, 0 => l
  | l, n + 1 => midIter (midNext l) n

theorem midIter_succ (l n : Nat) : midIter l (n + 1) = midNext (midIter l n) := by
  induction n generalizing l with
  | zero => rfl
  | succ n ih =>
    show midIter (midNext l) (n + 1) = midNext (midIter (midNext l) n)
    exact ih (midNext l)

theorem midSeq_succ (l n : Nat) : midSeq l (n + 1) = midSeq l n ++ [midIter l (n + 1)] := by
  induction n generalizing l with
  | zero => simp [midSeq, midIter]
  | succ n ih =>
    have h1 : midSeq l (n + 1 + 1) = midNext l :: midSeq (midNext l) (n + 1) := rfl
    rw [h1, ih (midNext l)]
    simp [midSeq, midIter]

theorem midSeq_nodup (l0 n : Nat) (h : l0 ≤ 65535) (hn : n ≤ 65535) : (midSeq l0 n).Nodup := by
  rw [List.Nodup, List.pairwise_iff_getElem]
  intro i j hi hj hij heq
  rw [midSeq_length] at hi hj
  have := c14_distinct_window n l0 i j h hij hj (by omega)
  apply this
  rw [List.getElem?_eq_getElem (by rw [midSeq_length]; exact hi),
    List.getElem?_eq_getElem (by rw [midSeq_length]; exact hj), heq]

/-- invariant of the generator (relies on `Gen.midGenUnderLock = true`) -/
structure MInv (l0 : Nat) (s : MidSys) : Prop where
  own : ∀ t, s.pc t ≠ .idle → s.owner = some t
  seq : s.rets.reverse.map (·.2) = midSeq l0 s.rets.length
  /-- between `store` and `leave` the new id is in `_last_mid`, not yet returned -/
  stored : ∀ t, s.pc t = .stored → s.last = midIter l0 (s.rets.length + 1)
  /-- otherwise `last` is the id returned last -/
  nostored : (∀ t, s.pc t ≠ .stored) → s.last = midIter l0 s.rets.length
  loaded : ∀ t v, s.pc t = .loaded v → v = s.last

theorem MInv.init (l0 : Nat) : MInv l0 { last := l0 } where
  own := fun _ h => absurd rfl h
  seq := rfl
  stored := nofun
  nostored := fun _ => rfl
  loaded := nofun

variable {l0 : Nat} {s : MidSys}

theorem MInv.unique (h : MInv l0 s) {t x : Tid} (ht : s.pc t ≠ .idle)
    (hx : s.pc x ≠ .idle) : x = t :=
  Option.some.inj ((h.own x hx).symm.trans (h.own t ht))

theorem MInv.others_idle (h : MInv l0 s) {t : Tid} (ht : s.pc t ≠ .idle ∨ s.owner = none) :
    ∀ x, x ≠ t → s.pc x = .idle := by
  intro x hxt
  by_cases hx : s.pc x = .idle
  · exact hx
  · rcases ht with ht | ht
    · exact absurd (h.unique ht hx) hxt
    · have := h.own x hx
      rw [ht] at this; cases this

/-- the invariant when `t`, at `p`, alone may be inside the generator -/
def MInv.Single (l0 : Nat) (s : MidSys) (t : Tid) (p : MPc) : Prop :=
  (p ≠ .idle → s.owner = some t) ∧ s.rets.reverse.map (·.2) = midSeq l0 s.rets.length ∧
    (p = .stored → s.last = midIter l0 (s.rets.length + 1)) ∧ (p ≠ .stored → s.last = midIter l0 s.rets.length) ∧
    (∀ v, p = .loaded v → v = s.last)

theorem MInv.iff_single (t : Tid) (p : MPc) (hp : s.pc t = p) (hothers : ∀ x, x ≠ t → s.pc x = .idle) :
    MInv l0 s ↔ MInv.Single l0 s t p := by
  subst hp
  have only : ∀ x, s.pc x ≠ .idle → x = t := fun x hx => Decidable.byContradiction fun hxt => hx (hothers x hxt)
  constructor
  · intro h
    exact ⟨h.own t, h.seq, h.stored t, fun hst => h.nostored fun x hx => hst (only x (by rw [hx]; nofun) ▸ hx), h.loaded t⟩
  · rintro ⟨hown, hseq, hst, hnst, hloaded⟩
    refine ⟨fun x hx => ?_, hseq, fun x hx => ?_, fun hno => hnst (hno t), fun x v hx => ?_⟩
    · cases only x hx; exact hown hx
    · cases only x (by rw [hx]; nofun); exact hst hx
    · cases only x (by rw [hx]; nofun); exact hloaded v hx

/-- The acting thread `t` alone may be inside, before and after: it goes from `p` to `p'`. -/
theorem MInv.move (h : MInv l0 s) {t : Tid} {p p' : MPc} {s' : MidSys} (hp : s.pc t = p)
    (ht : s.pc t ≠ .idle ∨ s.owner = none) (hp' : s'.pc = upd s.pc t p')
    (f : MInv.Single l0 s t p → MInv.Single l0 s' t p') : MInv l0 s' :=
  (MInv.iff_single t p' (by rw [hp', upd_same]) fun x hx => by rw [hp', upd_other _ _ _ hx]; exact h.others_idle ht x hx).2
    (f ((MInv.iff_single t p hp (h.others_idle ht)).1 h))

theorem MInv.step {s' : MidSys} {t : Tid} {a : MAct} (h : MInv l0 s) (hs : s.step t a = some s') : MInv l0 s' := by
  cases a <;> dsimp only [MidSys.step, Gen.midGenUnderLock] at hs
  case enter =>
    split at hs
    · rename_i hpc
      simp only [if_true] at hs
      obtain ⟨hown, rfl⟩ := Option.ite_some_none_eq_some.1 hs
      exact h.move hpc (.inr (by simpa using hown)) rfl fun ⟨_, hseq, _, hlast, _⟩ =>
        ⟨fun _ => rfl, hseq, nofun, fun _ => hlast nofun, nofun⟩
    · cases hs
  case load =>
    split at hs
    · rename_i hpc
      cases hs
      exact h.move hpc (.inl (by rw [hpc]; nofun)) rfl fun ⟨hown, hseq, _, hlast, _⟩ =>
        ⟨fun _ => hown nofun, hseq, nofun, fun _ => hlast nofun, fun v hv => (MPc.loaded.inj hv).symm⟩
    · cases hs
  case store =>
    split at hs
    · rename_i v hpc
      cases hs
      refine h.move hpc (.inl (by rw [hpc]; nofun)) rfl fun ⟨hown, hseq, _, hlast, hv⟩ =>
        ⟨fun _ => hown nofun, hseq, fun _ => ?_, fun hne => absurd rfl hne, nofun⟩
      show midNext v = midIter l0 (s.rets.length + 1)
      rw [midIter_succ, hv v rfl, hlast nofun]
    · cases hs
  case leave =>
    split at hs
    · rename_i hpc
      cases hs
      refine h.move hpc (.inl (by rw [hpc]; nofun)) rfl fun ⟨_, hseq, hlast, _, _⟩ =>
        ⟨fun hne => absurd rfl hne, ?_, nofun, fun _ => hlast rfl, nofun⟩
      show ((t, s.last) :: s.rets).reverse.map (·.2) = midSeq l0 (s.rets.length + 1)
      rw [midSeq_succ, List.reverse_cons, List.map_append, hseq, hlast rfl]
      rfl
    · cases hs

theorem MInv.run (h : MInv l0 s) (sched : List (Tid × MAct)) : MInv l0 (s.run sched) :=
  run_inv (fun _ => rfl) (fun _ _ _ _ => rfl) sched (fun _ _ _ _ _ h => h.step) s h

end Paho.Thr.ThrMid
