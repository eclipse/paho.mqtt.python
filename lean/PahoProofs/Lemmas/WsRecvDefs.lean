/-
Receive side of the WebSocket framing layer: the reference meaning of a byte stream of server frames
(`Frame`, `encs`, `dataOf`, `owed`), the transport abstraction (`flat`, `qMeasure`) and the relations
(`Ok`, `Fail`, `Spec`) in which the `_buffered_read` chain of one `_recv_impl` call is specified.
-/
import Paho.Model.Ws
import PahoProofs.Lemmas.WsBytes
namespace Paho.Ws
open Paho

/-! ### frames on the wire (RFC 6455 section 5.2) -/

/-- a frame as a server can put it on the wire. Every first byte is allowed (FIN, RSV1-3, any opcode), the frame may
be masked or not, and the payload length may use any of the three encodings that can hold it (`lenForm` 0: 7 bits,
1: 16 bits, 2: 64 bits), minimal or not. -/
structure Frame where
  b0 : UInt8
  lenForm : Nat
  mask : Option Bytes
  payload : Bytes
  deriving DecidableEq, Repr

namespace Frame

def opcode (f : Frame) : Nat := f.b0.toNat % 16

def len7 (f : Frame) : Nat :=
  if f.lenForm = 0 then f.payload.length else if f.lenForm = 1 then 126 else 127

def b1 (f : Frame) : UInt8 := b8 ((if f.mask.isSome then 128 else 0) + f.len7)

def ext (f : Frame) : Bytes :=
  if f.lenForm = 0 then [] else if f.lenForm = 1 then beBytes 2 f.payload.length else beBytes 8 f.payload.length

def keyBytes (f : Frame) : Bytes := match f.mask with | some k => k | none => []

/-- payload as transmitted -/
def body (f : Frame) : Bytes :=
  match f.mask with
  | some k => xorRange k 0 f.payload.length f.payload
  | none => f.payload

def hdrLen (f : Frame) : Nat := 2 + f.ext.length + f.keyBytes.length

def enc (f : Frame) : Bytes := f.b0 :: f.b1 :: (f.ext ++ (f.keyBytes ++ f.body))

/-- well-formed: a 4-byte masking key, and a length form that can hold the payload length -/
def wf (f : Frame) : Prop :=
  (∀ k, f.mask = some k → k.length = 4) ∧
  ((f.lenForm = 0 ∧ f.payload.length < 126) ∨ (f.lenForm = 1 ∧ f.payload.length < 65536) ∨
   (f.lenForm = 2 ∧ f.payload.length < 2 ^ 64))

instance (f : Frame) : Decidable f.wf := by unfold wf; exact inferInstance

/-- BINARY or CONTINUATION -/
def isData (f : Frame) : Prop := f.opcode = 2 ∨ f.opcode = 0

instance (f : Frame) : Decidable f.isData := by unfold isData; exact inferInstance

/-- the reply a complete frame is owed: PONG with the same payload for a PING, CLOSE for a CLOSE -/
def owed (f : Frame) : List Bytes :=
  if f.opcode = 9 then [createFrame 10 f.payload [] 0]
  else if f.opcode = 8 then [createFrame 8 f.payload [] 0]
  else []

/-- PING / CLOSE frames are not masked (RFC 6455 section 5.1: a server MUST NOT mask) -/
def ctlUnmasked (f : Frame) : Prop := (f.opcode = 9 ∨ f.opcode = 8) → f.mask = none

instance (f : Frame) : Decidable f.ctlUnmasked := by unfold ctlUnmasked; exact inferInstance

end Frame

def encs : List Frame → Bytes
  | [] => []
  | f :: fs => f.enc ++ encs fs

/-- what the application is to receive: the payloads of the data frames, in order -/
def dataOf : List Frame → Bytes
  | [] => []
  | f :: fs => (if f.isData then f.payload else []) ++ dataOf fs

def owedAll : List Frame → List Bytes
  | [] => []
  | f :: fs => f.owed ++ owedAll fs

theorem encs_append (a b : List Frame) : encs (a ++ b) = encs a ++ encs b := by
  induction a with
  | nil => rfl
  | cons f a ih => simp [encs, ih]

theorem dataOf_append (a b : List Frame) : dataOf (a ++ b) = dataOf a ++ dataOf b := by
  induction a with
  | nil => rfl
  | cons f a ih => simp [dataOf, ih]

theorem owedAll_append (a b : List Frame) : owedAll (a ++ b) = owedAll a ++ owedAll b := by
  induction a with
  | nil => rfl
  | cons f a ih => simp [owedAll, ih]

theorem Frame.body_length (f : Frame) : f.body.length = f.payload.length := by
  unfold Frame.body; split <;> simp

theorem Frame.enc_length (f : Frame) : f.enc.length = f.hdrLen + f.payload.length := by
  simp [Frame.enc, Frame.hdrLen, Frame.body_length]; omega

theorem Frame.len_forms {f : Frame} (hwf : f.wf) :
    (f.len7 = f.payload.length ∧ f.ext = [] ∧ f.payload.length < 126) ∨
    (f.len7 = 126 ∧ f.ext = beBytes 2 f.payload.length ∧ f.payload.length < 256 ^ 2) ∨
    (f.len7 = 127 ∧ f.ext = beBytes 8 f.payload.length ∧ f.payload.length < 256 ^ 8) := by
  unfold Frame.len7 Frame.ext
  rcases hwf.2 with ⟨h, hl⟩ | ⟨h, hl⟩ | ⟨h, hl⟩ <;> rw [h]
  · exact Or.inl ⟨rfl, rfl, hl⟩
  · exact Or.inr (Or.inl ⟨rfl, rfl, hl⟩)
  · exact Or.inr (Or.inr ⟨rfl, rfl, hl⟩)

theorem Frame.len7_lt {f : Frame} (hwf : f.wf) : f.len7 < 128 := by
  rcases Frame.len_forms hwf with h | h | h <;> rw [h.1]
  · exact Nat.lt_trans h.2.2 (by decide)
  · decide
  · decide

theorem Frame.b1_toNat {f : Frame} (hwf : f.wf) : f.b1.toNat = (if f.mask.isSome then 128 else 0) + f.len7 := by
  have := Frame.len7_lt hwf
  unfold Frame.b1
  rw [b8_toNat]
  split <;> omega

theorem Frame.b1_lengthbits {f : Frame} (hwf : f.wf) : f.b1.toNat % 128 = f.len7 := by
  rw [Frame.b1_toNat hwf]
  split
  · rw [Nat.add_mod_left, Nat.mod_eq_of_lt (Frame.len7_lt hwf)]
  · rw [Nat.zero_add, Nat.mod_eq_of_lt (Frame.len7_lt hwf)]

theorem Frame.b1_maskbit {f : Frame} (hwf : f.wf) : decide (128 ≤ f.b1.toNat) = f.mask.isSome := by
  have := Frame.len7_lt hwf
  rw [Frame.b1_toNat hwf]
  cases f.mask <;> simp <;> omega

theorem Frame.ext_length (f : Frame) : f.ext.length = if f.lenForm = 0 then 0 else if f.lenForm = 1 then 2 else 8 := by
  unfold Frame.ext
  rw [apply_ite List.length, apply_ite List.length, beBytes_length, beBytes_length]; rfl

/-- the bytes a queue will deliver before its first terminal event -/
def flat : List RecvItem → Bytes
  | [] => []
  | .data b :: rest => b ++ flat rest
  | .eagain :: rest => flat rest
  | .eof :: _ => []
  | .err :: _ => []

/-- decreases with every `recv` that takes an item or a byte off the queue -/
def qMeasure (q : List RecvItem) : Nat := q.length + (flat q).length

theorem recvN_spec (n : Nat) (hn : 0 < n) (q : List RecvItem) :
    match recvN n q with
    | (.block, q') => flat q' = flat q ∧ qMeasure q' ≤ qMeasure q ∧ (flat q ≠ [] → qMeasure q' < qMeasure q)
    | (.closed, q') => flat q' = flat q ∧ flat q = [] ∧ qMeasure q' ≤ qMeasure q
    | (.error, q') => flat q' = flat q ∧ flat q = [] ∧ qMeasure q' ≤ qMeasure q
    | (.bytes d, q') => d ++ flat q' = flat q ∧ d.length ≤ n ∧ qMeasure q' < qMeasure q := by
  cases q with
  | nil => simp [recvN, flat]
  | cons it rest =>
    cases it with
    | eagain => simp [recvN, flat, qMeasure]
    | eof => simp [recvN, flat]
    | err => simp [recvN, flat]
    | data b =>
      simp only [recvN]
      by_cases h : b.length ≤ n
      · simp [h, flat, qMeasure]; omega
      · simp only [h, if_false]
        refine ⟨by simp only [flat]; rw [← List.append_assoc, List.take_append_drop], List.length_take_le n b, ?_⟩
        simp [qMeasure, flat]; omega

/-! ### relations between the cursors of one `_recv_impl` call -/

/-- total bytes the call can see: buffered ones and those the socket will still deliver -/
def Cur.stream (c : Cur) : Bytes := c.buf ++ flat c.q

/-- `c'` is reached from `c` by successful `_buffered_read`s -/
structure Ok (c c' : Cur) : Prop where
  stream : c'.stream = c.stream
  bufLe : c.buf.length ≤ c'.buf.length
  meas : qMeasure c'.q ≤ qMeasure c.q
  headLe : c'.head ≤ c'.buf.length
  bufMax : c'.buf.length ≤ max c.buf.length c'.head
  headMono : c.head ≤ c'.head

/-- `c'` is where a `_buffered_read` that needed the buffer to reach `T` bytes gave up (BlockingIOError or
ConnectionError): nothing is lost, the buffer is still short of `T`, and if `T` bytes exist at all then the failed
`recv` took something off the queue -/
structure Fail (c c' : Cur) (T : Nat) : Prop where
  stream : c'.stream = c.stream
  bufLe : c.buf.length ≤ c'.buf.length
  short : c'.buf.length < T
  meas : qMeasure c'.q ≤ qMeasure c.q
  progress : T ≤ c.stream.length → qMeasure c'.q < qMeasure c.q

theorem Ok.refl (c : Cur) (h : c.head ≤ c.buf.length) : Ok c c :=
  ⟨rfl, Nat.le_refl _, Nat.le_refl _, h, Nat.le_max_left _ _, Nat.le_refl _⟩

theorem Ok.trans {a b c : Cur} (h1 : Ok a b) (h2 : Ok b c) : Ok a c :=
  ⟨h2.stream.trans h1.stream, Nat.le_trans h1.bufLe h2.bufLe, Nat.le_trans h2.meas h1.meas, h2.headLe,
    Nat.le_trans h2.bufMax (Nat.max_le.2 ⟨Nat.le_trans h1.bufMax
      (Nat.max_le.2 ⟨Nat.le_max_left _ _, Nat.le_trans h2.headMono (Nat.le_max_right _ _)⟩), Nat.le_max_right _ _⟩),
    Nat.le_trans h1.headMono h2.headMono⟩

theorem Fail.rebase {a b c : Cur} {T : Nat} (h1 : Ok a b) (h2 : Fail b c T) : Fail a c T :=
  ⟨h2.stream.trans h1.stream, Nat.le_trans h1.bufLe h2.bufLe, h2.short, Nat.le_trans h2.meas h1.meas,
    fun hT => Nat.lt_of_lt_of_le (h2.progress (h1.stream ▸ hT)) h1.meas⟩

theorem Fail.mono {a c : Cur} {T T' : Nat} (h : Fail a c T) (hT : T ≤ T') : Fail a c T' :=
  ⟨h.stream, h.bufLe, Nat.lt_of_lt_of_le h.short hT, h.meas, fun h' => h.progress (Nat.le_trans hT h')⟩

/-- specification of a step of the read chain started at `c`: success satisfies `post`, failure is a `Fail` below `T` -/
def Spec {α : Type} (r : Step α) (c : Cur) (T : Nat) (post : α → Cur → Prop) : Prop :=
  match r with
  | .ok a c' => Ok c c' ∧ post a c'
  | .block c' => Fail c c' T
  | .closed c' => Fail c c' T

theorem Spec.rebase {α : Type} {r : Step α} {a b : Cur} {T : Nat} {post : α → Cur → Prop}
    (h1 : Ok a b) (h2 : Spec r b T post) : Spec r a T post := by
  cases r with
  | ok x c' => exact ⟨h1.trans h2.1, h2.2⟩
  | block c' => exact Fail.rebase h1 h2
  | closed c' => exact Fail.rebase h1 h2

theorem Spec.mono {α : Type} {r : Step α} {c : Cur} {T T' : Nat} {post post' : α → Cur → Prop}
    (h : Spec r c T post) (hT : T ≤ T') (hp : ∀ a c', Ok c c' → post a c' → post' a c') : Spec r c T' post' := by
  cases r with
  | ok x c' => exact ⟨h.1, hp _ _ h.1 h.2⟩
  | block c' => exact Fail.mono h hT
  | closed c' => exact Fail.mono h hT

theorem Spec.bind {α β : Type} {r : Step α} {f : α → Cur → Step β} {c : Cur} {T : Nat}
    {post : α → Cur → Prop} {post' : β → Cur → Prop}
    (h : Spec r c T post) (hf : ∀ a c', Ok c c' → post a c' → Spec (f a c') c' T post') :
    Spec (r.bind f) c T post' := by
  cases r with
  | ok x c' => exact Spec.rebase h.1 (hf x c' h.1 h.2)
  | block c' => exact h
  | closed c' => exact h

/-! ### `_buffered_read` -/

theorem slice_append {A B : Bytes} {h n : Nat} (hle : h + n ≤ A.length) :
    ((A ++ B).drop h).take n = (A.drop h).take n := by
  rw [List.drop_append_of_le_length (Nat.le_trans (Nat.le_add_right h n) hle),
    List.take_append_of_le_length (List.length_drop ▸ Nat.le_sub_of_add_le' hle)]

/-- a `recv` that added nothing to a buffer still short of `T` -/
theorem Fail.of_recv {c : Cur} {q' : List RecvItem} {T : Nat} (hs : flat q' = flat c.q) (hT : c.buf.length < T)
    (hm : qMeasure q' ≤ qMeasure c.q) (hp : flat c.q ≠ [] → qMeasure q' < qMeasure c.q) :
    Fail c { c with q := q' } T :=
  ⟨congrArg (c.buf ++ ·) hs, Nat.le_refl _, hT, hm, fun h => hp fun hnil => by
    rw [Cur.stream, hnil, List.append_nil] at h; omega⟩

/-- the slice is cut from a buffer `b` that has reached `head + n`; what the socket still holds does not matter -/
theorem Spec.of_read {c : Cur} {n : Nat} {b : Bytes} {q' : List RecvItem} (hs : b ++ flat q' = c.stream)
    (hb : c.buf.length ≤ b.length) (hm : qMeasure q' ≤ qMeasure c.q) (hge : c.head + n ≤ b.length)
    (hmax : b.length ≤ max c.buf.length (c.head + n)) :
    Spec (.ok ((b.drop c.head).take n) { buf := b, head := c.head + n, q := q' }) c (c.head + n)
      (fun out c' => c'.head = c.head + n ∧ out = (c.stream.drop c.head).take n) :=
  ⟨⟨hs, hb, hm, hge, hmax, Nat.le_add_right _ _⟩, rfl, by rw [← hs, slice_append hge]⟩

theorem bufferedRead_spec (n : Nat) (c : Cur) (hh : c.head ≤ c.buf.length) :
    Spec (bufferedRead n c) c (c.head + n)
      (fun out c' => c'.head = c.head + n ∧ out = (c.stream.drop c.head).take n) := by
  unfold bufferedRead
  by_cases hw : n - (c.buf.length - c.head) > 0
  · rw [if_pos hw]
    -- `w` bytes are wanted: exactly what the buffer lacks to reach `head + n`
    have hlen : c.buf.length + (n - (c.buf.length - c.head)) = c.head + n := by omega
    generalize n - (c.buf.length - c.head) = w at hw hlen
    have hT : c.buf.length < c.head + n := hlen ▸ Nat.lt_add_of_pos_right hw
    have hs := recvN_spec w hw c.q
    rcases hrec : recvN w c.q with ⟨res, q'⟩
    rw [hrec] at hs
    cases res with
    | block => exact Fail.of_recv hs.1 hT hs.2.1 hs.2.2
    | closed => exact Fail.of_recv hs.1 hT hs.2.2 (fun h => absurd hs.2.1 h)
    | error => exact Fail.of_recv hs.1 hT hs.2.2 (fun h => absurd hs.2.1 h)
    | bytes d =>
      obtain ⟨h1, h2, h3⟩ := hs
      have hbd : (c.buf ++ d).length = c.buf.length + d.length := List.length_append
      show Spec (if d.isEmpty then _ else _) _ _ _
      by_cases he : d.isEmpty
      · rw [if_pos he]
        rw [List.isEmpty_iff.1 he] at h1
        exact Fail.of_recv h1 hT (Nat.le_of_lt h3) (fun _ => h3)
      · rw [if_neg he]
        show Spec (if _ then _ else _) _ _ _
        by_cases hl : d.length < w
        · rw [if_pos hl]
          exact ⟨by rw [Cur.stream, Cur.stream, List.append_assoc, h1], hbd ▸ Nat.le_add_right _ _,
            hbd ▸ hlen ▸ Nat.add_lt_add_left hl _, Nat.le_of_lt h3, fun _ => h3⟩
        · rw [if_neg hl]
          have hfull : (c.buf ++ d).length = c.head + n := by
            rw [hbd, Nat.le_antisymm h2 (Nat.le_of_not_lt hl), hlen]
          exact Spec.of_read (by rw [List.append_assoc, h1]; rfl) (hbd ▸ Nat.le_add_right _ _) (Nat.le_of_lt h3)
            (Nat.le_of_eq hfull.symm) (hfull ▸ Nat.le_max_right _ _)
  · rw [if_neg hw]
    exact Spec.of_read rfl (Nat.le_refl _) (Nat.le_refl _)
      (Nat.add_le_of_le_sub' hh (Nat.sub_eq_zero_iff_le.1 (Nat.eq_zero_of_not_pos hw))) (Nat.le_max_left _ _)

end Paho.Ws
