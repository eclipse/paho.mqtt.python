/-
The retransmission lemma for `_handle_connack`: on an accepted connection every stored message whose
state asks for it is handed to that connection, unless the connection is lost on the way.
-/
import PahoProofs.Lemmas.OutStore

namespace Paho.OutLemmas
open Paho Paho.S

theorem connackResend_sock_none (fuel : Nat) (s : S) (idx : Nat) (rc : RC) (h : s.sock = none) :
    (s.connackResend fuel idx rc).1 = s := by
  cases fuel with
  | zero => rfl
  | succ n =>
    unfold connackResend
    split
    · rfl
    · rw [if_pos (by rw [h]; rfl)]

theorem connackResend_retx (fuel : Nat) : ∀ (s : S) (idx : Nat) (rc : RC) (c : Nat),
    s.sock = some c → SInv s → (s.out.map (·.mid)).Nodup → s.out.length < fuel + idx →
    ∃ evs, (s.connackResend fuel idx rc).1.log = s.log ++ evs ∧
      ((s.connackResend fuel idx rc).1.sock ≠ some c ∨ ∀ m ∈ s.out.drop idx, Retx c evs m) := by
  have beyond : ∀ {s : S} {idx c : Nat}, s.out.length ≤ idx → ∀ m ∈ s.out.drop idx, Retx c [] m :=
    fun hl m hm => by rw [List.drop_eq_nil_of_le hl] at hm; cases hm
  induction fuel with
  | zero => exact fun s idx rc c hs hi hn hf => ⟨[], (List.append_nil _).symm, Or.inr (beyond (by omega))⟩
  | succ n ih =>
    intro s idx rc c hs hi hn hf
    have h := connackResend_step s n idx rc
    generalize s.connackResend (n + 1) idx rc = r at h ⊢
    cases h with
    | done h =>
      refine ⟨[], (List.append_nil _).symm, Or.inr (beyond ?_)⟩
      rcases h with h | h
      · exact List.getElem?_eq_none_iff.mp h
      · rw [hs] at h; cases h
    | queued m0 hm0 hq =>
      -- the loop stops; nothing behind a queued message needs retransmission
      obtain ⟨evs, hlog, -⟩ := (loopWrite_low s).log
      refine ⟨evs, hlog, Or.inr fun m hm => ?_⟩
      have hp := hi.q1.sublist (List.drop_sublist idx _)
      rw [drop_of_getElem? hm0] at hm hp
      have hst : m.state ≠ .publish ∧ m.state ≠ .resendPubrel := by
        rcases List.mem_cons.mp hm with rfl | hm
        · rw [hq]; exact ⟨nofun, nofun⟩
        · exact List.rel_of_pairwise_cons hp hm hq
      exact ⟨fun hp => absurd hp hst.1, fun hp => absurd hp hst.2⟩
    | round m0 hm0 x hx =>
      obtain ⟨g, hW, -, -, hR⟩ := hx
      obtain ⟨hstop, hsock2, hout2, hretx⟩ := hR c hs hi hn
      obtain ⟨evs2, hlog2, hg⟩ := hW.same.log
      rw [hstop, if_neg Bool.false_ne_true]
      have hl3 := loopWrite_low x.1
      obtain ⟨evs3, hlog3, -⟩ := hl3.log
      have hretx0 : ∀ evs4, Retx c (evs2 ++ evs3 ++ evs4) m0 := fun _ =>
        hretx.mono fun e he => List.mem_append_left _ (List.mem_append_left _ (List.mem_filter.mp (hg ▸ he)).1)
      generalize x.1.loopWrite.1 = s3 at hl3 hlog3 ⊢
      rcases hsock2.elim (hl3.sock_of ·) (fun h => Or.inr (hl3.sock.elim (·.trans h) id)) with hs3 | hs3
      · -- connection still open: the loop goes on
        obtain ⟨evs4, hlog4, hres⟩ := ih s3 (idx + 1) x.2.1 c hs3 (hl3.sinv (hW.sinv hi))
          (by rw [hl3.out, mids_of_keys hW.same.keys]; exact hn)
          (by have := congrArg List.length hW.same.keys
              rw [hl3.out]; simp only [List.length_map] at this; omega)
        refine ⟨evs2 ++ evs3 ++ evs4, by rw [hlog4, hlog3, hlog2]; simp, hres.imp_right fun hres m hm => ?_⟩
        rw [drop_of_getElem? hm0] at hm
        rcases List.mem_cons.mp hm with rfl | hm
        · exact hretx0 evs4
        · exact (hres m (by rw [hl3.out, hout2]; exact hm)).mono fun e he => List.mem_append_right _ he
      · -- connection gone
        refine ⟨evs2 ++ evs3, ?_, Or.inl ?_⟩ <;> rw [connackResend_sock_none _ _ _ _ hs3]
        · rw [hlog3, hlog2, List.append_assoc]
        · rw [hs3]; nofun

theorem handleConnack_retx (s : S) (sp ok : Bool) (c : Nat)
    (hs : s.sock = some c) (hi : SInv s) (hn : (s.out.map (·.mid)).Nodup) :
    ∃ evs, (s.handleConnack sp 0 ok).1.log = s.log ++ evs ∧
      ((s.handleConnack sp 0 ok).1.sock ≠ some c ∨ ∀ m ∈ s.out, Retx c evs m) := by
  obtain ⟨v, hv⟩ : ∃ v, Reason.mkById 2 0 = .ok v := ⟨0, by rfl⟩
  unfold handleConnack
  extract_lets pre s0 s1 shown s3
  have hpre : pre = none := by
    unfold pre
    split
    · rw [hv]
    · rfl
  rw [hpre]
  dsimp only
  rw [if_neg (by simp), if_pos rfl]
  have h1 : Low [] s s1 := by unfold s1; rw [if_pos rfl]; exact Low.upd
  have h3 : Low [] s s3 := h1.trans (Low.emit_ng _ _ rfl)
  have hlog3 : s3.log = s.log ++ [Ev.onConnect shown sp] := by simp [s3, s1, emit]
  have hs3 : s3.sock = some c := hs
  have hout3 : s3.out = s.out := h3.out
  clear_value s3
  obtain ⟨evs, hlog, hres⟩ := connackResend_retx (s3.out.length + 1) s3 0 rcSuccess c hs3 (h3.sinv hi)
    (by rw [hout3]; exact hn) (by omega)
  generalize s3.connackResend (s3.out.length + 1) 0 rcSuccess = r at hlog hres ⊢
  exact ⟨Ev.onConnect shown sp :: evs, by rw [hlog, hlog3]; simp, hres.imp_right fun h m hm =>
    (h m (hout3 ▸ hm)).mono fun e he => List.mem_cons_of_mem _ he⟩

end Paho.OutLemmas
