/-
The two invariants of the message store, and that the frame relations keep them. `SInv`: every stored message is well
formed and can be encoded, none that awaits retransmission stands behind a queued one, and a queued message means a
full window; `SInvP k` is `SInv` with slack `k` in the window test, as it holds in the middle of `_do_on_publish`.
`Inv`: packet ids, publish() order, infos, completions in the log. `ackState` / `pubState`: the state right after
`_do_on_publish` popped a message / `publish()` allocated packet id and info.
-/
import Paho.Model.SessionInv
import PahoProofs.Lemmas.OutFrame
import PahoProofs.Properties.C14

namespace Paho.OutLemmas
open Paho Paho.S

theorem pairwise_set {α : Type} {R : α → α → Prop} (a : α) (h1 : ∀ x, R x a) (h2 : ∀ x, R a x) :
    ∀ (l : List α) (i : Nat), l.Pairwise R → (l.set i a).Pairwise R
  | [], _, _ => .nil
  | _ :: _, 0, h => (List.pairwise_cons.mp h).imp (fun _ b _ => h2 b) id |> List.pairwise_cons.mpr
  | x :: xs, i + 1, h =>
    List.pairwise_cons.mpr ⟨fun b hb => (List.mem_or_eq_of_mem_set hb).elim ((List.pairwise_cons.mp h).1 b)
      fun e => e ▸ h1 x, pairwise_set a h1 h2 xs i (List.pairwise_cons.mp h).2⟩

theorem nodup_map_inj {α β : Type} (f : α → β) {l : List α} (hn : (l.map f).Nodup) {a b : α}
    (ha : a ∈ l) (hb : b ∈ l) (hab : f a = f b) : a = b :=
  have hp := List.pairwise_map.mp hn
  List.Pairwise.forall_of_forall_of_flip (R := fun x y => f x = f y → x = y) (fun _ _ _ => rfl)
    (hp.imp fun h e => absurd e h) (hp.imp fun h e => absurd e.symm h) ha hb hab

theorem eraseDups_of_nodup : ∀ (l : List Nat), l.Nodup → l.eraseDups = l := by
  intro l
  induction l with
  | nil => intro _; simp
  | cons a as ih =>
    intro hn
    rw [List.nodup_cons] at hn
    rw [List.eraseDups_cons]
    have : as.filter (fun b => !b == a) = as := by
      rw [List.filter_eq_self]
      intro b hb
      have : b ≠ a := fun h => hn.1 (h ▸ hb)
      simp [this]
    rw [this, ih hn.2]

/-- the message can be encoded whatever `retain` and `dup` are: a retransmission (`direct := false`) then cannot fail -/
def EncOk (proto : Nat) (mid : Nat) (topic payload : Bytes) (qos : Nat) : Prop :=
  ∀ r d, ∃ b, encPublish proto mid topic payload qos r d none = .ok b

theorem encPublish_proto (p p' : Nat) (h : p ≠ 5) (h' : p' ≠ 5) (mid : Nat) (topic payload : Bytes) (qos : Nat)
    (r d : Bool) : encPublish p mid topic payload qos r d none = encPublish p' mid topic payload qos r d none := by
  simp [encPublish, packProps, h, h']

/-- a stored message as `publish()` leaves it and the handlers keep it -/
structure MsgOk (proto : Nat) (m : OutMsg) : Prop where
  qos : m.qos = 1 ∨ m.qos = 2
  rel : m.state = .resendPubrel → m.qos = 2
  mid : m.mid ≤ 65535
  enc : EncOk proto m.mid m.topic m.payload m.qos

section sinv
variable {p p' : Nat} {m : OutMsg} {st : MS} {k : Int} {s s' : S}

theorem MsgOk.upd (h : MsgOk p m) (d : Bool) (hst : st = .resendPubrel → m.qos = 2) :
    MsgOk p { m with dup := d, state := st } := ⟨h.qos, hst, h.mid, h.enc⟩

theorem MsgOk.proto (h : MsgOk p m) (hp : p ≠ 5) (hp' : p' ≠ 5) : MsgOk p' m :=
  ⟨h.qos, h.rel, h.mid, fun r d => encPublish_proto p p' hp hp' .. ▸ h.enc r d⟩

/-- nothing that awaits retransmission stands behind a queued message: the loop after CONNACK stops at the first
queued message -/
def QRel (a b : OutMsg) : Prop := a.state = .queued → b.state ≠ .publish ∧ b.state ≠ .resendPubrel

/-- a state the retransmission loop and the window refill put a message in -/
def Waiting (st : MS) : Prop := st ≠ .queued ∧ st ≠ .publish ∧ st ≠ .resendPubrel

theorem MsgOk.wait (h : MsgOk p m) (hst : Waiting st) : MsgOk p { m with state := st } :=
  h.upd m.dup fun e => absurd e hst.2.2

/-- `k`: the slack of the window test, 0 at op boundaries, 1 between the pop of an acknowledged message in
`_do_on_publish` and the refill of the window -/
structure SInvP (k : Int) (s : S) : Prop where
  msg : ∀ m ∈ s.out, MsgOk s.proto m
  q1 : s.out.Pairwise QRel
  -- messages are queued only while the window is in use and full
  q2 : (∃ m ∈ s.out, m.state = .queued) → s.cfg.maxInflight > 0 ∧ s.inflight + k ≥ s.cfg.maxInflight

abbrev SInv (s : S) : Prop := SInvP 0 s

theorem SInv.init (cfg : Cfg) (proto t : Nat) : SInv (S.init cfg proto t) :=
  ⟨fun _ h => (nomatch h), .nil, fun ⟨_, h, _⟩ => nomatch h⟩

theorem SInvP.of_eq (h : SInvP k s) (hout : s'.out = s.out := by rfl)
    (hinf : s'.inflight = s.inflight := by rfl) (hcfg : s'.cfg = s.cfg := by rfl)
    (hproto : s'.proto = s.proto := by rfl) : SInvP k s' :=
  ⟨by rw [hout, hproto]; exact h.msg, by rw [hout]; exact h.q1, by rw [hout, hcfg, hinf]; exact h.q2⟩

theorem LowQ.sinv {g : List Ev} {q : List OutPkt} (h : LowQ g q s s') (hs : SInvP k s) : SInvP k s' :=
  hs.of_eq h.out h.inflight h.cfg h.proto

theorem SInvP.of_no_queued (hmsg : ∀ m ∈ s.out, MsgOk s.proto m) (hnq : ∀ m ∈ s.out, m.state ≠ .queued) :
    SInvP k s :=
  ⟨hmsg, List.pairwise_of_forall_mem_list fun a ha _ _ hq => absurd hq (hnq a ha),
    fun ⟨m, hm, hq⟩ => absurd hq (hnq m hm)⟩

theorem SInvP.slack {k' : Int} (h : SInvP k s)
    (hk : s.cfg.maxInflight > 0 → s.inflight + k ≥ s.cfg.maxInflight → s.inflight + k' ≥ s.cfg.maxInflight) :
    SInvP k' s :=
  ⟨h.msg, h.q1, fun hex => ⟨(h.q2 hex).1, hk (h.q2 hex).1 (h.q2 hex).2⟩⟩

theorem SInvP.set_wait (h : SInvP k s) {idx : Nat} (hm : s.out[idx]? = some m) (hst : Waiting st) (d : Int) :
    SInvP (k - d) { s with inflight := s.inflight + d, out := s.out.set idx { m with state := st } } := by
  have hsub : ∀ x ∈ s.out.set idx { m with state := st }, x ∈ s.out ∨ x = { m with state := st } :=
    fun x hx => List.mem_or_eq_of_mem_set hx
  refine ⟨fun x hx => ?_, ?_, ?_⟩
  · rcases hsub x hx with hx | rfl
    · exact h.msg x hx
    · exact (h.msg m (List.mem_of_getElem? hm)).wait hst
  · exact pairwise_set _ (fun x _ => hst.2) (fun x hq => absurd hq hst.1) _ _ h.q1
  · rintro ⟨x, hx, hxq⟩
    rcases hsub x hx with hx | rfl
    · have := h.q2 ⟨x, hx, hxq⟩
      exact ⟨this.1, by have h2 := this.2; show s.inflight + d + (k - d) ≥ (s.cfg.maxInflight : Int); omega⟩
    · exact absurd hxq hst.1

theorem SInvP.map_wait (h : SInvP k s) {f : OutMsg → OutMsg} (hst : Waiting st)
    (hf : ∀ m, f m = m ∨ f m = { m with state := st }) : SInvP k { s with out := s.out.map f } := by
  have hq : ∀ m, (f m).state = .queued → m.state = .queued := fun m e => by
    rcases hf m with e' | e' <;> rw [e'] at e
    · exact e
    · exact absurd e hst.1
  have hr : ∀ m, (m.state ≠ .publish ∧ m.state ≠ .resendPubrel) → (f m).state ≠ .publish ∧ (f m).state ≠ .resendPubrel :=
    fun m hm => by
      rcases hf m with e' | e' <;> rw [e']
      · exact hm
      · exact hst.2
  refine ⟨fun x hx => ?_, List.pairwise_map.mpr (h.q1.imp fun hab e => hr _ (hab (hq _ e))), fun ⟨x, hx, e⟩ => ?_⟩
  · obtain ⟨m, hm, rfl⟩ := List.mem_map.mp hx
    rcases hf m with e' | e' <;> rw [e']
    · exact h.msg m hm
    · exact (h.msg m hm).wait hst
  · obtain ⟨m, hm, rfl⟩ := List.mem_map.mp hx
    exact h.q2 ⟨m, hm, hq m e⟩

end sinv

/-- right after `_do_on_publish` popped the message and marked its info, before the window is refilled -/
def ackState (s : S) (mid : Nat) (m : OutMsg) : S :=
  { s with
    out := s.out.filter (·.mid ≠ mid)
    infos := s.infos.modify m.info (fun _ => { rc := rcSuccess, published := true })
    inflight := if m.qos > 0 then s.inflight - 1 else s.inflight
    log := s.log ++ [.onPublish mid] ++ [.completed m.info mid] ++ [.infoDone m.info rcSuccess] }

/-- `publish()` after the packet id and the info were allocated -/
def pubState (s : S) : S :=
  { s with lastMid := midNext s.lastMid,
           infos := s.infos ++ [({ rc := rcSuccess, published := false } : Info)] }

def isComplOf (u : Nat) : Ev → Bool
  | .completed u' _ => u' = u
  | _ => false

/-- each `completed` is immediately preceded by `onPublish` of the same packet id -/
def CB (log : List Ev) : Prop :=
  ∀ i u mid, log[i + 1]? = some (.completed u mid) → log[i]? = some (.onPublish mid)

/-- `pinv` protects the infos not yet allocated as well as those of stored messages: the info `publish()` appends is
unpublished and no queued packet points at it. `once`: an instance completes at most once, and is then no longer stored -/
structure Inv (s : S) : Prop where
  nodup : (s.out.map (·.mid)).Nodup
  sorted : (s.out.map (·.info)).Pairwise (· < ·)
  range : ∀ m ∈ s.out, 1 ≤ m.mid ∧ m.mid ≤ 65535 ∧ m.info < s.infos.length ∧ (m.qos = 1 ∨ m.qos = 2)
  lastMid : s.lastMid ≤ 65535
  pinv : PInv (fun i => s.infos.length ≤ i ∨ i ∈ s.out.map (·.info)) s
  once : ∀ u, (s.log.filter (isComplOf u)).length ≤ 1 ∧
      ((s.log.filter (isComplOf u)) ≠ [] → u < s.infos.length ∧ u ∉ s.out.map (·.info))
  cb : CB s.log

section inv
variable {g evs log : List Ev} {s s' s0 : S} {mid : Nat} {m : OutMsg}

theorem ackState_log (s : S) (mid : Nat) (m : OutMsg) :
    (ackState s mid m).log = s.log ++ [.onPublish mid, .completed m.info mid, .infoDone m.info rcSuccess] := by
  simp [ackState]

theorem ackState_sinv (s : S) (mid : Nat) (m : OutMsg) (h : SInv s) : SInvP 1 (ackState s mid m) := by
  have hsub : (s.out.filter (·.mid ≠ mid)).Sublist s.out := List.filter_sublist
  refine ⟨fun x hx => h.msg x (hsub.subset hx), h.q1.sublist hsub, fun ⟨x, hx, hq⟩ => ?_⟩
  have := h.q2 ⟨x, hsub.subset hx, hq⟩
  refine ⟨this.1, ?_⟩
  show (if m.qos > 0 then s.inflight - 1 else s.inflight) + 1 ≥ (s.cfg.maxInflight : Int)
  split <;> omega

theorem Inv.init (cfg : Cfg) (proto t : Nat) : Inv (S.init cfg proto t) := by
  refine ⟨by simp [S.init], by simp [S.init], by simp [S.init], c14_inv_init, ⟨?_, ?_⟩, ?_, ?_⟩
  · intro i _; simp [pubAt, S.init]
  · intro p hp; simp [S.init] at hp
  · intro u; simp [S.init]
  · intro i u mid h; simp [S.init] at h

theorem isCompleted_of_isComplOf {u : Nat} {e : Ev} (h : isComplOf u e = true) : isCompleted e = true := by
  cases e <;> first | rfl | cases h

theorem isGhost_of_isCompleted {e : Ev} (h : isCompleted e = true) : isGhost e = true := by
  cases e <;> first | rfl | cases h

theorem evs_noCompl (hg : evs.filter isGhost = g) (hc : NoCompl g) : ∀ e ∈ evs, isCompleted e = false :=
  fun e he => Bool.eq_false_iff.mpr fun hh =>
    Bool.false_ne_true ((hc e (hg ▸ List.mem_filter.mpr ⟨he, isGhost_of_isCompleted hh⟩)).symm.trans hh)

theorem CB.append_cb (h : CB log) (h2 : CB evs) (h0 : ∀ u mid, evs[0]? ≠ some (.completed u mid)) :
    CB (log ++ evs) := by
  intro i u mid hi
  by_cases hlt : i + 1 < log.length
  · rw [List.getElem?_append_left hlt] at hi
    rw [List.getElem?_append_left (by omega)]
    exact h i u mid hi
  · rw [List.getElem?_append_right (by omega)] at hi
    by_cases he : i + 1 = log.length
    · rw [he, Nat.sub_self] at hi; exact absurd hi (h0 u mid)
    · rw [List.getElem?_append_right (by omega)]
      exact h2 (i - log.length) u mid (by rwa [show i - log.length + 1 = i + 1 - log.length by omega])

theorem CB.append {log evs : List Ev} (h : CB log) (hne : ∀ e ∈ evs, isCompleted e = false) :
    CB (log ++ evs) :=
  h.append_cb (fun _ _ _ hi => nomatch hne _ (List.mem_of_getElem? hi)) fun _ _ h0 => nomatch hne _ (List.mem_of_getElem? h0)

theorem Inv.of_keys (hi : Inv s) (hk : s'.out.map key = s.out.map key)
    (hmid : s'.lastMid = s.lastMid) (hlen : s'.infos.length = s.infos.length)
    (hp : PInv (fun i => s.infos.length ≤ i ∨ i ∈ s.out.map (·.info)) s') (hl : LogStep g s s') (hc : NoCompl g) :
    Inv s' := by
  obtain ⟨evs, hlog, hg⟩ := hl
  have hne := evs_noCompl hg hc
  have hinfos := infos_of_keys hk
  refine ⟨mids_of_keys hk ▸ hi.nodup, hinfos ▸ hi.sorted, fun m' hm' => ?_, hmid ▸ hi.lastMid,
    by rw [hlen, hinfos]; exact hp, fun u => ?_, hlog ▸ hi.cb.append hne⟩
  · obtain ⟨m, hm, e1, e2, e3⟩ := mem_of_key_mem (hk ▸ List.mem_map_of_mem hm')
    rw [hlen, ← e1, ← e2, ← e3]; exact hi.range m hm
  · have : evs.filter (isComplOf u) = [] := List.filter_eq_nil_iff.mpr fun e he hc =>
      Bool.false_ne_true ((hne e he).symm.trans (isCompleted_of_isComplOf hc))
    rw [hlog, List.filter_append, this, List.append_nil, hlen, hinfos]
    exact hi.once u

theorem Inv.same (hi : Inv s) (h : Same g s s') (hc : NoCompl g) : Inv s' :=
  hi.of_keys h.keys h.lastMid h.infosLen (PubStep.pinv h.pub h.outq hi.pinv.1 hi.pinv.2) h.log hc

theorem Inv.lowQ {q : List OutPkt} (hi : Inv s) (h : LowQ g q s s') (hc : NoCompl g)
    (hq : ∀ p ∈ q, p.qos = 0 → ∀ i, p.info = some i → i < s.infos.length ∧ i ∉ s.out.map (·.info)) : Inv s' :=
  hi.of_keys (by rw [h.out]) h.lastMid h.infosLen
    (PubStep.pinv h.pub h.outq hi.pinv.1 fun p hp h0 i hi' hP =>
      hP.elim (fun hl => absurd (hq p hp h0 i hi').1 (by omega)) (hq p hp h0 i hi').2) h.log hc

theorem Inv.mid_step (hi : Inv s) (h : midStep s s0) : Inv s0 := by
  rcases h with rfl | rfl
  · exact hi
  · exact ⟨hi.nodup, hi.sorted, hi.range, (c14_range _ hi.lastMid).2, hi.pinv, hi.once, hi.cb⟩

theorem pubAt_ackState (s : S) (mid : Nat) (m : OutMsg) (i : Nat) :
    pubAt (ackState s mid m) i =
      if i = m.info ∧ i < s.infos.length then some true else pubAt s i := by
  simp only [pubAt, ackState, List.getElem?_modify]
  by_cases h1 : i = m.info
  · rw [h1]
    by_cases h2 : m.info < s.infos.length
    · simp [h2]
    · simp [h2]
  · have : ¬ m.info = i := fun h => h1 h.symm
    simp only [h1, false_and, if_false, this]
    cases s.infos[i]? <;> rfl

theorem Inv.ack_state (hi : Inv s) (hf : s.out.find? (·.mid = mid) = some m) : Inv (ackState s mid m) := by
  have hm := List.mem_of_find?_eq_some hf
  have hmid : m.mid = mid := by simpa using List.find?_some hf
  have hsub : ((s.out.filter (·.mid ≠ mid)).map (·.info)).Sublist (s.out.map (·.info)) := List.filter_sublist.map _
  -- instance ids are distinct, so the instance of `m` is gone with it
  have hnotin : m.info ∉ (s.out.filter (·.mid ≠ mid)).map (·.info) := fun hin => by
    obtain ⟨m', hm', e⟩ := List.mem_map.mp hin
    have hm'' := List.mem_filter.mp hm'
    cases nodup_map_inj _ (hi.sorted.imp Nat.ne_of_lt) hm''.1 hm e
    simp [hmid] at hm''
  have hlen : (ackState s mid m).infos.length = s.infos.length := List.length_modify ..
  have hP' : ∀ {i}, (s.infos.length ≤ i ∨ i ∈ (s.out.filter (·.mid ≠ mid)).map (·.info)) →
      (s.infos.length ≤ i ∨ i ∈ s.out.map (·.info)) := fun h => h.imp_right (hsub.subset ·)
  refine ⟨hi.nodup.sublist (List.filter_sublist.map _), hi.sorted.sublist hsub,
    fun m' hm' => hlen ▸ hi.range m' (List.mem_filter.mp hm').1, hi.lastMid,
    ⟨fun i hP => ?_, fun p hp hq i hpi hP => hi.pinv.2 p hp hq i hpi (hP' (hlen ▸ hP))⟩, fun u => ?_, ?_⟩
  · rw [hlen] at hP
    have hne : i ≠ m.info := by
      rintro rfl
      exact hP.elim (by have := (hi.range m hm).2.2.1; omega) hnotin
    rw [pubAt_ackState, if_neg fun h => hne h.1]
    exact hi.pinv.1 i (hP' hP)
  · rw [hlen, ackState_log, List.filter_append]
    by_cases hu : m.info = u
    · subst hu
      have hold : s.log.filter (isComplOf m.info) = [] := by
        cases hl : s.log.filter (isComplOf m.info) with
        | nil => rfl
        | cons a b => exact absurd (List.mem_map_of_mem hm) ((hi.once m.info).2 (by rw [hl]; nofun)).2
      rw [hold]
      exact ⟨by simp [isComplOf], fun _ => ⟨(hi.range m hm).2.2.1, hnotin⟩⟩
    · have : List.filter (isComplOf u) [Ev.onPublish mid, Ev.completed m.info mid,
          Ev.infoDone m.info rcSuccess] = [] := by
        simp [isComplOf, hu]
      rw [this, List.append_nil]
      exact ⟨(hi.once u).1, fun h => ((hi.once u).2 h).imp id fun h2 hin => h2 (hsub.subset hin)⟩
  · show CB (s.log ++ [.onPublish mid] ++ [.completed m.info mid] ++ [.infoDone m.info rcSuccess])
    rw [List.append_assoc, List.append_assoc]
    refine hi.cb.append_cb (fun i u' mid' h => ?_) nofun
    rcases i with _ | _ | i
    · cases h; rfl
    · cases h
    · cases h

theorem Inv.info_lt (hi : Inv s) {i : Nat} (h : i ∈ s.out.map (·.info)) : i < s.infos.length := by
  obtain ⟨m, hm, rfl⟩ := List.mem_map.mp h
  exact (hi.range m hm).2.2.1

theorem Inv.of_pubState (hi : Inv s) : Inv (pubState s) := by
  have hlen : (pubState s).infos.length = s.infos.length + 1 := by simp [pubState]
  refine ⟨hi.nodup, hi.sorted, fun m hm => ?_, (c14_range _ hi.lastMid).2,
    ⟨fun i hP => ?_, fun p hp hq i hpi hP => hi.pinv.2 p hp hq i hpi ?_⟩, fun u => ⟨(hi.once u).1, fun h => ?_⟩, hi.cb⟩
  · have := hi.range m hm
    exact ⟨this.1, this.2.1, by rw [hlen]; omega, this.2.2.2⟩
  · rw [hlen] at hP
    rcases hP with hP | hP
    · simp [pubAt, pubState, List.getElem?_eq_none (show (s.infos ++ [_]).length ≤ i by simp; omega)]
    · have hlt := hi.info_lt hP
      have : pubAt (pubState s) i = pubAt s i := by simp [pubAt, pubState, List.getElem?_append_left hlt]
      rw [this]; exact hi.pinv.1 i (Or.inr hP)
  · rw [hlen] at hP; exact hP.imp (by omega) id
  · obtain ⟨h1, h2⟩ := (hi.once u).2 h
    exact ⟨by rw [hlen]; omega, h2⟩

theorem Inv.of_pubStore (hi : Inv s) (m' : OutMsg) (i : Int) {qos : Nat}
    (hk : key m' = (midNext s.lastMid, qos, s.infos.length)) (hq : qos ≠ 0) (hq2 : qos ≤ 2)
    (hcol : s.out.any (·.mid = midNext s.lastMid) = false) :
    Inv { pubState s with out := s.out ++ [m'], inflight := i } := by
  have hP := hi.of_pubState
  simp only [key, Prod.mk.injEq] at hk
  obtain ⟨e1, e2, e3⟩ := hk
  have hfresh : s.infos.length ∉ s.out.map (·.info) := fun h => absurd (hi.info_lt h) (by omega)
  have hlen : (pubState s).infos.length = s.infos.length + 1 := by simp [pubState]
  have hmem : ∀ j, j ∈ (s.out ++ [m']).map (·.info) → j ∈ s.out.map (·.info) ∨ j = s.infos.length := fun j hj => by
    rw [List.map_append, List.mem_append, List.map_singleton, List.mem_singleton, e3] at hj; exact hj
  refine ⟨?_, ?_, fun m hm => ?_, hP.lastMid, ⟨fun j hj => ?_, fun p hp h0 j hpj hj => ?_⟩, fun u => ?_, hP.cb⟩
  · show ((s.out ++ [m']).map (·.mid)).Nodup
    rw [List.map_append, List.nodup_append]
    refine ⟨hi.nodup, by simp, fun a ha b hb e => ?_⟩
    cases List.mem_singleton.mp hb
    obtain ⟨m, hm, rfl⟩ := List.mem_map.mp ha
    exact List.any_eq_false.mp hcol m hm (decide_eq_true (e.trans e1))
  · show ((s.out ++ [m']).map (·.info)).Pairwise (· < ·)
    rw [List.map_append, List.pairwise_append]
    refine ⟨hi.sorted, List.pairwise_singleton _ _, fun a ha b hb => ?_⟩
    cases List.mem_singleton.mp hb
    exact Nat.lt_of_lt_of_eq (hi.info_lt ha) e3.symm
  · rcases List.mem_append.mp hm with hm | hm
    · exact hP.range m hm
    · cases List.mem_singleton.mp hm
      have := c14_range _ hi.lastMid
      exact ⟨e1 ▸ this.1, e1 ▸ this.2, by rw [e3]; simp [pubState], by omega⟩
  · rcases hj with hj | hj
    · exact hP.pinv.1 j (Or.inl hj)
    · rcases hmem j hj with hj | rfl
      · exact hP.pinv.1 j (Or.inr hj)
      · simp [pubAt, pubState]
  · refine hi.pinv.2 p hp h0 j hpj ?_
    rcases hj with hj | hj
    · exact Or.inl (by rw [hlen] at hj; omega)
    · exact (hmem j hj).elim Or.inr fun e => Or.inl (by omega)
  · refine ⟨(hi.once u).1, fun h => ?_⟩
    obtain ⟨h1, h2⟩ := (hi.once u).2 h
    exact ⟨by rw [hlen]; omega, fun hu => (hmem u hu).elim h2 (by omega)⟩

theorem sortedLt_of_pairwise : ∀ (l : List Nat), l.Pairwise (· < ·) → S.sortedLt l = true := by
  intro l
  induction l with
  | nil => intro _; rfl
  | cons a as ih =>
    intro h
    cases as with
    | nil => rfl
    | cons b rest =>
      rw [List.pairwise_cons] at h
      simp only [S.sortedLt, Bool.and_eq_true, decide_eq_true_eq]
      exact ⟨h.1 b (by simp), ih h.2⟩

theorem Inv.invMidNodup (hi : Inv s) : s.invMidNodup = true := by
  simp only [S.invMidNodup]
  rw [eraseDups_of_nodup _ hi.nodup]
  simp

theorem Inv.invOutSorted (hi : Inv s) : s.invOutSorted = true :=
  sortedLt_of_pairwise _ hi.sorted

theorem Inv.invMidRange (hi : Inv s) : s.invMidRange = true := by
  simp only [S.invMidRange, Bool.and_eq_true, decide_eq_true_eq, List.all_eq_true, Bool.or_eq_true, beq_iff_eq]
  exact ⟨hi.lastMid, fun m hm => have := hi.range m hm; ⟨⟨⟨this.1, this.2.1⟩, this.2.2.1⟩, this.2.2.2⟩⟩

end inv
end Paho.OutLemmas
