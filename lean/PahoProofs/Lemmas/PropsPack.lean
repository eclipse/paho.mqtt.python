/-
For C17: `pack` produces the specification's encoding.
-/
import PahoProofs.Lemmas.PropsTable

namespace Paho.PropsLemmas
open Paho Paho.Spec

theorem packU32_eq (n : Int) :
    packU32 n = if 0 ≤ n ∧ n ≤ 4294967295 then .ok (u32be n.toNat) else .error .structError := rfl

theorem writeProperty_spec (i t : Nat) (ty : PType) (v : PVal) (hi : i ≤ 268435455)
    (ht : Gen.propTypes[t]? = some ty.codeName) :
    (Props.writeProperty i t v).toOption = Spec.encodeProp i ty v := by
  unfold Props.writeProperty
  rw [vbiEnc_nat i hi, Props.typeName]
  generalize Gen.propTypes[t]? = s at ht
  -- the code dispatches on the type's name, the specification on the type: `codeName_inj` links the two
  split
  · obtain rfl := codeName_inj .byte ty (Option.some.inj ht)
    simp only [Spec.encodeProp]; split <;> rfl
  · obtain rfl := codeName_inj .two ty (Option.some.inj ht)
    simp only [Spec.encodeProp, packU16_eq]; split <;> rfl
  · obtain rfl := codeName_inj .four ty (Option.some.inj ht)
    simp only [Spec.encodeProp, packU32_eq]; split <;> rfl
  · obtain rfl := codeName_inj .varint ty (Option.some.inj ht)
    simp only [Spec.encodeProp, vbiEnc_eq]; split <;> rfl
  · obtain rfl := codeName_inj .bin ty (Option.some.inj ht)
    simp only [Spec.encodeProp, str16_eq]; split
    · exact congrArg some (List.append_assoc ..).symm
    · rfl
  · obtain rfl := codeName_inj .str ty (Option.some.inj ht)
    simp only [Spec.encodeProp, str16_eq]; split
    · exact congrArg some (List.append_assoc ..).symm
    · rfl
  next k w =>
    obtain rfl := codeName_inj .pair ty (Option.some.inj ht)
    simp only [Spec.encodeProp, str16_eq]
    by_cases hk : k.length ≤ 65535 <;> by_cases hw : w.length ≤ 65535 <;>
      simp only [hk, hw, and_self, and_true, and_false, if_true, if_false]
    · exact congrArg some (by simp only [List.append_assoc])
    all_goals rfl
  next h1 h2 h3 h4 h5 h6 h7 =>
    -- none of the code's seven cases: `ty` and `v` do not go together for the specification either
    unfold Spec.encodeProp
    split
    · exact (h1 _ ht rfl).elim
    · exact (h2 _ ht rfl).elim
    · exact (h3 _ ht rfl).elim
    · exact (h4 _ ht rfl).elim
    · exact (h5 _ ht rfl).elim
    · exact (h6 _ ht rfl).elim
    · exact (h7 _ _ ht rfl).elim
    · rfl

/-- the specification's encoding of one property's values, in order; `none` if one does not fit the wire type -/
def encFold (i : Nat) (ty : PType) (vs : List PVal) : Option Bytes :=
  vs.foldr (fun v (a : Option Bytes) => match a, Spec.encodeProp i ty v with
        | some r, some b => some (b ++ r)
        | _, _ => none) (some [])

/-- … of the properties of `p` that have a row in `tbl`, in the order of `tbl`: a variable table, for the induction -/
def specFold (p : Props) (tbl : List (Nat × PType × List Nat)) : Option Bytes :=
  tbl.foldr (fun (row : Nat × PType × List Nat) (acc : Option Bytes) =>
    match acc, p.attrs.lookup row.1 with
    | none, _ => none
    | some rest, none => some rest
    | some rest, some vs => (encFold row.1 row.2.1 vs).map (· ++ rest)) (some [])

theorem toOption_eq_some {ε α : Type} {x : Except ε α} {a : α} : x.toOption = some a ↔ x = .ok a := by
  cases x with
  | error e => exact ⟨nofun, nofun⟩
  | ok b => exact ⟨fun h => congrArg Except.ok (Option.some.inj h), fun h => congrArg some (Except.ok.inj h)⟩

/-- the step of `writeAll` and `packBody` through `toOption`, matched in the order of the two folds above -/
theorem toOption_append (x y : Except Exc Bytes) :
    (do let a ← x; let b ← y; pure (a ++ b)).toOption =
      match y.toOption, x.toOption with
      | some r, some b => some (b ++ r)
      | _, _ => none := by
  cases x <;> cases y <;> rfl

theorem writeAll_spec (i t : Nat) (ty : PType) (hi : i ≤ 268435455)
    (ht : Gen.propTypes[t]? = some ty.codeName) (vs : List PVal) :
    (Props.writeAll i t vs).toOption = encFold i ty vs := by
  induction vs with
  | nil => rfl
  | cons v vs ih =>
    rw [Props.writeAll, toOption_append, ih, writeProperty_spec i t ty v hi ht]
    rfl

theorem packBody_spec (p : Props) (names : List (String × Nat)) (tbl : List (Nat × PType × List Nat))
    (hids : names.map (·.2) = tbl.map (·.1))
    (hrows : ∀ row ∈ tbl, ∃ t pk, Props.row row.1 = some (t, pk) ∧
      Gen.propTypes[t]? = some row.2.1.codeName ∧ row.1 < 128) :
    (Props.packBody p names).toOption = specFold p tbl := by
  induction names generalizing tbl with
  | nil =>
    cases tbl with
    | nil => rfl
    | cons r tbl => simp at hids
  | cons nm names ih =>
    cases tbl with
    | nil => simp at hids
    | cons r tbl =>
      obtain ⟨name, i⟩ := nm
      obtain ⟨ri, ty, rpk⟩ := r
      simp only [List.map_cons, List.cons.injEq] at hids
      obtain ⟨rfl, hids⟩ := hids
      obtain ⟨t, pk, hrow, hty, hlt⟩ := hrows _ List.mem_cons_self
      have ih' := ih tbl hids (fun row hr => hrows row (List.mem_cons_of_mem _ hr))
      rw [Props.packBody, specFold, List.foldr_cons, ← specFold, ← ih', Props.getAttr, hrow]
      dsimp only
      cases hl : List.lookup i p.attrs with
      | none => cases (Props.packBody p names).toOption <;> rfl
      | some vs =>
        rw [toOption_append, writeAll_spec i t ty (Nat.le_trans (Nat.le_of_lt hlt) (by decide)) hty vs]
        cases (Props.packBody p names).toOption
        · cases encFold i ty vs <;> rfl
        · dsimp only
          cases encFold i ty vs <;> rfl

theorem pack_ok {p : Props} {b : Bytes} :
    p.pack = .ok b ↔ ∃ body, p.packBody Gen.propNames = .ok body ∧ body.length ≤ 268435455 ∧
      b = Spec.vbi body.length ++ body := by
  rw [Props.pack, bind_ok]
  refine exists_congr fun body => and_congr_right fun _ => ?_
  rw [vbiEnc_eq, Int.toNat_natCast]
  by_cases hl : body.length ≤ 268435455
  · rw [if_pos (by omega)]
    exact ⟨fun h => ⟨hl, (by cases h; rfl)⟩, fun h => (by rw [h.2]; rfl)⟩
  · rw [if_neg (by omega)]
    exact ⟨fun h => (by cases h), fun h => absurd h.1 hl⟩

end Paho.PropsLemmas
