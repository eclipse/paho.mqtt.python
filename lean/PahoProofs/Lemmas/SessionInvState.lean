/-
`InvS` (the state invariants of the action machine of `SessionAct.lean`) is kept by every atomic action and
implies the Bool predicates of `Paho/Model/SessionInv.lean` that do not mention the log.
-/
import Paho.Model.SessionInv
import PahoProofs.Lemmas.SessionDefs
import PahoProofs.Lemmas.SessionActLog

namespace Paho
namespace SessAct

variable {v v' : View}

theorem invS_reg (hi : InvS v) : InvS (vRegW v) ∧ InvS (vUnregW v) :=
  reg_cases hi fun _ _ hc _ => { hi with reg := fun _ => hc ▸ rfl }

theorem invS_enq {pkt : OutPkt} (hf : Fresh pkt)
    (hd : isDiscCmd pkt.command → v.discCalled = true) (hi : InvS v) : InvS (vEnq v pkt) := by
  obtain ⟨f1, f2, _⟩ := hf
  refine { hi with qpos := ?_, qtail := ?_, discq := ?_ }
  · intro p hp
    rcases List.mem_append.1 hp with hp | hp
    · exact hi.qpos p hp
    · rw [List.mem_singleton.1 hp, f1]
      exact List.length_pos_iff.mpr f2
  · intro p hp
    rw [show (vEnq v pkt).outq = v.outq ++ [pkt] from rfl, List.drop_append] at hp
    rcases List.mem_append.1 hp with hp | hp
    · exact hi.qtail p hp
    · rw [List.mem_singleton.1 (List.mem_of_mem_drop hp), f1]
  · intro hs p hp
    rcases List.mem_append.1 hp with hp | hp
    · exact hi.discq hs p hp
    · rw [List.mem_singleton.1 hp]
      exact hd

theorem invS_write {pkt : OutPkt} {rest : List OutPkt} {k : Nat}
    (hq : v.outq = pkt :: rest) (hle : pkt.pos + k ≤ pkt.bytes.length)
    (hi : InvS v) : InvS (vWrite v pkt rest k) := by
  have hmem : ∀ p ∈ (vWrite v pkt rest k).outq, p ∈ rest ∨
      (p = { pkt with pos := pkt.pos + k } ∧ pkt.pos + k ≠ pkt.bytes.length) := by
    intro p hp
    simp only [vWrite] at hp
    split at hp
    · exact .inl hp
    · exact (List.mem_cons.1 hp).symm.imp_right fun h => ⟨h, ‹_›⟩
  have hrest : ∀ p ∈ rest, p ∈ v.outq.drop 1 := fun p hp => hq ▸ hp
  refine { hi with qpos := ?_, qtail := ?_, discq := ?_ }
  · intro p hp
    rcases hmem p hp with hp | ⟨rfl, hne⟩
    · exact hi.qpos p (List.mem_of_mem_drop (hrest p hp))
    · exact Nat.lt_of_le_of_ne hle hne
  · intro p hp
    refine hi.qtail p (hrest p ?_)
    simp only [vWrite] at hp
    split at hp
    · exact List.mem_of_mem_drop hp
    · exact hp
  · intro hs p hp
    rcases hmem p hp with hp | ⟨rfl, _⟩
    · exact hi.discq hs p (List.mem_of_mem_drop (hrest p hp))
    · exact hi.discq hs pkt (hq ▸ List.mem_cons_self)

theorem invS_of_noSock (hs : v.sock = none) (hc : v.cstate ≠ .connected)
    (hd : v.discCalled = false) (hr : v.regWrite = false)
    (h5 : ∀ p ∈ v.outq, p.pos < p.bytes.length) (h6 : ∀ p ∈ v.outq.drop 1, p.pos = 0)
    (h9 : v.inCb = false) : InvS v :=
  ⟨fun h => absurd h hc, fun h => by simp [hs] at h, fun _ => hd, fun h => by simp [hr] at h,
   h5, h6, fun c h => by simp [hs] at h, fun h => by simp [hs] at h, h9⟩

theorem InvS.regWrite_of_noSock (hi : InvS v) (hs : v.sock = none) : v.regWrite = false :=
  Bool.eq_false_iff.2 fun h => by have := hi.reg h; rw [hs] at this; cases this

theorem invS_connack (hs : v.sock.isSome = true) (hi : InvS v) :
    InvS { v with cstate := (if v.cstate = .disconnecting then .disconnecting else .connected), ackd := true } := by
  refine { hi with conn := fun _ => ⟨hs, rfl⟩, disc := fun _ => ?_ }
  have := (hi.disc hs).1
  show (ite _ _ _ = _ ↔ _) ∧ ite _ _ _ ≠ _
  split
  · exact ⟨by simpa [*] using this, nofun⟩
  · exact ⟨⟨nofun, fun hd => absurd (this.2 hd) ‹_›⟩, nofun⟩

theorem InvS.closed (hi : InvS v) (r : Bool) {y : ConnState} (hy : y ≠ .connected) (l : List Ev) :
    InvS { vSockClose v r with cstate := y, log := l } := by
  cases hs : v.sock with
  | none =>
    rw [vSockClose_none hs]
    exact invS_of_noSock hs hy (hi.noSock hs) (hi.regWrite_of_noSock hs) hi.qpos hi.qtail hi.inCb
  | some c =>
    rw [vSockClose_some hs]
    exact invS_of_noSock rfl hy rfl rfl hi.qpos hi.qtail hi.inCb

theorem invS_writeDisc {pkt : OutPkt} {rest : List OutPkt} {k : Nat}
    (hs : v.sock.isSome = true) (hq : v.outq = pkt :: rest) (hk : pkt.pos + k = pkt.bytes.length)
    (hd : isDiscCmd pkt.command) (hi : InvS v) : InvS (vWriteDisc v pkt rest k) := by
  have hcs : v.cstate = .disconnecting := (hi.disc hs).1.mpr (hi.discq hs pkt (hq ▸ List.mem_cons_self) hd)
  unfold vWriteDisc
  rw [if_pos hcs]
  exact (invS_write hq (Nat.le_of_eq hk) hi).closed false (y := .disconnected) nofun _

theorem vCloseReplace_eq (v : View) (x : ConnState) :
    vCloseReplace v x = { vSockClose v true with cstate := x } := by
  simp only [vCloseReplace, vSockClose]
  split <;> rfl

theorem invS_open {pkt : Option OutPkt} (hs : v.sock = none) (hcs : v.cstate = .connecting)
    (hp : ∀ p, pkt = some p → IsConnectPkt p) (hi : InvS v) : InvS (vOpen v pkt) := by
  refine { conn := fun h => ?_, disc := fun _ => ?_, noSock := nofun, reg := nofun, qpos := ?_, qtail := ?_,
           nconn := fun c h => Nat.le_of_eq (Option.some.inj h).symm, discq := fun _ p hp' => ?_, inCb := hi.inCb }
  · exact absurd (hcs ▸ h : ConnState.connecting = .connected) nofun
  · show (v.cstate = _ ↔ v.discCalled = true) ∧ v.cstate ≠ _
    rw [hcs, hi.noSock hs]
    exact ⟨⟨nofun, nofun⟩, nofun⟩
  · intro p hp'
    obtain ⟨q1, _, q3⟩ := hp p (Option.mem_toList.1 hp')
    rw [q1]
    cases hb : p.bytes with
    | nil => rw [hb] at q3; cases q3
    | cons a l => exact Nat.zero_lt_succ _
  · cases pkt <;> exact nofun
  · obtain ⟨_, q2, _⟩ := hp p (Option.mem_toList.1 hp')
    exact fun h => absurd (q2 ▸ h) (by decide : ¬ isDiscCmd 0x10)

theorem invS_setDisc (hs : v.sock.isSome = true) (hi : InvS v) :
    InvS { v with cstate := .disconnecting, discCalled := true } :=
  { hi with conn := nofun, disc := fun _ => ⟨⟨fun _ => rfl, fun _ => rfl⟩, nofun⟩,
            noSock := fun h => (by rw [show v.sock = none from h] at hs; cases hs),
            discq := fun _ _ _ _ => rfl }

theorem Act.invS {k : Kind} (h : Act k v v') (hi : InvS v) : InvS v' := by
  cases h with
  | emit => exact { hi with }
  | regW => exact (invS_reg hi).1
  | unregW => exact (invS_reg hi).2
  | enq _ pkt hf hd => exact invS_enq hf hd hi
  | write _ pkt rest k hq _ hle => exact invS_write hq hle hi
  | setNoSock _ x hs hx =>
    exact invS_of_noSock hs hx (hi.noSock hs) (hi.regWrite_of_noSock hs) hi.qpos hi.qtail hi.inCb
  | connack _ hs => exact invS_connack hs hi
  | writeDisc _ pkt rest k hs hq _ hk hd => exact invS_writeDisc hs hq hk hd hi
  | closeLost | closeBroker => exact hi.closed false (by split <;> exact nofun) _
  | closeReplace _ x hx =>
    rw [vCloseReplace_eq]
    exact hi.closed true (by rcases hx with rfl | rfl <;> exact nofun) _
  | clearQ =>
    exact { hi with qpos := List.forall_mem_nil _, qtail := List.forall_mem_nil _, discq := fun _ => List.forall_mem_nil _ }
  | openConnect _ pkt hs _ hcs hp => exact invS_open hs hcs (fun p e => by cases e; exact hp) hi
  | openNoConnect _ hs _ hcs => exact invS_open hs hcs nofun hi
  | setDisc _ hs => exact invS_setDisc hs hi

theorem Path.invS {P : Kind → Bool} {v v' : View} (h : Path P v v') (hi : InvS v) : InvS v' :=
  h.preserves Act.invS hi

theorem invS_connected {s : S} (h : InvS (view s)) : s.invConnected = true := by
  have := h.conn
  simp only at this
  unfold S.invConnected
  by_cases hc : s.cstate = .connected
  · simp [this hc]
  · simp [hc]

theorem invS_disconnecting {s : S} (h : InvS (view s)) : s.invDisconnecting = true := by
  have := h.disc
  simp only at this
  unfold S.invDisconnecting
  cases hs : s.sock with
  | none => simp
  | some c =>
    obtain ⟨a, b⟩ := this (by simp [hs])
    cases hd : s.discCalled <;> simp_all

theorem invS_regSock {s : S} (h : InvS (view s)) : s.invRegSock = true := by
  have := h.reg
  simp only at this
  unfold S.invRegSock
  cases hr : s.regWrite with
  | false => simp
  | true => simp [this hr]

theorem invS_queueShape {s : S} (h : InvS (view s)) : s.invQueueShape = true := by
  have h5 := h.qpos
  have h6 := h.qtail
  simp only at h5 h6
  unfold S.invQueueShape
  simp only [Bool.and_eq_true, List.all_eq_true, decide_eq_true_eq, beq_iff_eq]
  exact ⟨h5, h6⟩

theorem pendingBytes_ne_nil {q : List OutPkt} (h : ∀ p ∈ q, p.pos < p.bytes.length) :
    pendingBytes q ≠ [] ↔ q ≠ [] := by
  cases q with
  | nil => simp [pendingBytes]
  | cons a l =>
    have := h a (by simp)
    simp only [pendingBytes, List.map_cons, List.flatten_cons, ne_eq, List.append_eq_nil_iff,
      List.drop_eq_nil_iff, reduceCtorEq, not_false_eq_true, iff_true, not_and]
    omega

theorem invS_wantWrite {s : S} (h : InvS (view s)) : s.wantWrite = true ↔ pendingBytes s.outq ≠ [] := by
  have h5 := h.qpos
  simp only at h5
  rw [pendingBytes_ne_nil h5]
  simp [S.wantWrite]

end SessAct
end Paho
