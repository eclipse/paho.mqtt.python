/-
`splitOn` (`bytes.split`), one input byte at a time, for the trie proofs (topic levels) and the argument validation
(filter levels).
-/
import Paho.Model.Split

namespace Paho

theorem splitOn_ne_nil (sep : UInt8) (bs : List UInt8) : splitOn sep bs ≠ [] := by
  cases bs with
  | nil => exact List.cons_ne_nil _ _
  | cons c cs =>
    unfold splitOn
    split
    · exact List.cons_ne_nil _ _
    · split <;> exact List.cons_ne_nil _ _

theorem splitOn_cons_sep (sep : UInt8) (cs : List UInt8) :
    splitOn sep (sep :: cs) = [] :: splitOn sep cs := by
  rw [splitOn, if_pos rfl]

theorem splitOn_cons (sep c : UInt8) (cs : List UInt8) :
    (c = sep ∧ splitOn sep (c :: cs) = [] :: splitOn sep cs) ∨
    (c ≠ sep ∧ ∃ l ls, splitOn sep cs = l :: ls ∧ splitOn sep (c :: cs) = (c :: l) :: ls) := by
  by_cases hc : c = sep
  · exact .inl ⟨hc, hc ▸ splitOn_cons_sep c cs⟩
  · obtain ⟨l, ls, h⟩ := List.exists_cons_of_ne_nil (splitOn_ne_nil sep cs)
    exact .inr ⟨hc, l, ls, h, by rw [splitOn, if_neg hc, h]⟩

theorem mem_splitOn (sep : UInt8) (s : List UInt8) :
    ∀ l ∈ splitOn sep s, ∀ c ∈ l, c ∈ s ∧ c ≠ sep := by
  induction s with
  | nil => simp [splitOn]
  | cons d cs ih =>
    rcases splitOn_cons sep d cs with ⟨_, h⟩ | ⟨hd, l, ls, hcs, h⟩
    · rw [h, List.forall_mem_cons]
      exact ⟨nofun, fun l hl c hc => (ih l hl c hc).imp_left (List.mem_cons_of_mem _)⟩
    · rw [hcs, List.forall_mem_cons] at ih
      rw [h, List.forall_mem_cons]
      refine ⟨fun c hc => ?_, fun l hl c hc => (ih.2 l hl c hc).imp_left (List.mem_cons_of_mem _)⟩
      rcases List.mem_cons.1 hc with rfl | hc
      · exact ⟨List.mem_cons_self, hd⟩
      · exact (ih.1 c hc).imp_left (List.mem_cons_of_mem _)

theorem splitOn_no_sep (sep : UInt8) (bs : List UInt8) :
    ∀ l ∈ splitOn sep bs, sep ∉ l :=
  fun l hl hm => (mem_splitOn sep bs l hl sep hm).2 rfl

end Paho
