/-
C07, section A (critical sections): the invariant of `SecSys` (sections over a lock-protected variable) over all
schedules.
-/
import PahoProofs.Lemmas.ThrUpd
namespace Paho.Thr

def SecSys.init {σ : Type} (x0 : σ) (progs : Tid → List (List (σ → σ))) : SecSys σ :=
  { shared := x0, committed := x0, thr := fun t => { todo := progs t } }

end Paho.Thr

namespace Paho.Thr.ThrSec
open Paho Paho.Thr

variable {σ : Type}

theorem applyAll_nil (x : σ) : applyAll [] x = x := rfl

theorem applyAll_append (fs gs : List (σ → σ)) (x : σ) :
    applyAll (fs ++ gs) x = applyAll gs (applyAll fs x) := by
  simp [applyAll, List.foldl_append]

theorem applyAll_snoc (fs : List (σ → σ)) (f : σ → σ) (x : σ) :
    applyAll (fs ++ [f]) x = f (applyAll fs x) :=
  applyAll_append fs [f] x

/-- the sections of thread `t` completed so far, in release order -/
def completed (s : SecSys σ) (t : Tid) : List (List (σ → σ)) :=
  (s.log.filter (·.1 = t)).map (·.2)

theorem completed_release {s s' : SecSys σ} {t : Tid} (hl : s'.log = s.log ++ [(t, s.cur)]) (u : Tid) :
    completed s' u = completed s u ++ if t = u then [s.cur] else [] := by
  rw [completed, hl, List.filter_append, List.map_append]
  by_cases h : t = u <;> simp [h, completed]

/-- `committed`: the released sections applied in log order. `shared` is ahead of it by the part `done` of `cur` that
the owner of the lock has applied (`rem`, the rest, heads its `todo`). A thread's program is what it has completed,
then what it has still to do. -/
structure SInv (x0 : σ) (progs : Tid → List (List (σ → σ))) (s : SecSys σ) : Prop where
  comm : s.committed = applyAll (s.log.map (·.2)).flatten x0
  free : s.owner = none → s.shared = s.committed
  own : ∀ t, s.owner = some t → ∃ done rem rest, s.cur = done ++ rem ∧ (s.thr t).todo = rem :: rest ∧
    s.shared = applyAll done s.committed ∧ progs t = completed s t ++ s.cur :: rest
  other : ∀ t, s.owner ≠ some t → progs t = completed s t ++ (s.thr t).todo

theorem SInv.init (x0 : σ) (progs : Tid → List (List (σ → σ))) :
    SInv x0 progs (SecSys.init x0 progs) where
  comm := rfl
  free := fun _ => rfl
  own := nofun
  other := fun _ _ => rfl

variable {x0 : σ} {progs : Tid → List (List (σ → σ))} {s : SecSys σ}

theorem SInv.step {s' : SecSys σ} {t : Tid} {a : SAct} (h : SInv x0 progs s) (hs : s.step t a = some s') : SInv x0 progs s' := by
  cases a <;> dsimp only [SecSys.step] at hs
  case acquire =>
    split at hs
    · rename_i sec rest htodo
      obtain ⟨hc, rfl⟩ := Option.ite_some_none_eq_some.1 hs
      have hnone : s.owner = none := by simpa using hc.1
      have ho := fun u => h.other u (by rw [hnone]; nofun)
      refine ⟨h.comm, nofun, fun u hu => ?_, fun u hu => ?_⟩
      · cases hu
        exact ⟨[], sec, rest, rfl, by simp only [upd_same, htodo], h.free hnone, by rw [ho t, htodo]; rfl⟩
      · simp only [upd_other _ _ _ fun e : u = t => hu (e ▸ rfl)]
        exact ho u
    · cases hs
  case update =>
    split at hs
    · rename_i f fs rest htodo
      obtain ⟨hc, rfl⟩ := Option.ite_some_none_eq_some.1 hs
      have hown : s.owner = some t := hc.1
      obtain ⟨done, rem, rest', hcur, htd, hsh, hpr⟩ := h.own t hown
      obtain ⟨rfl, rfl⟩ := List.cons.inj (htodo.symm.trans htd)
      refine ⟨h.comm, fun hc => (nomatch hown.symm.trans hc), fun u hu => ?_, fun u hu => ?_⟩
      · cases hown.symm.trans hu
        refine ⟨done ++ [f], fs, rest, ?_, by simp only [upd_same], ?_, hpr⟩
        · show s.cur = (done ++ [f]) ++ fs
          rw [hcur, List.append_assoc]; rfl
        · show f s.shared = applyAll (done ++ [f]) s.committed
          rw [applyAll_snoc, hsh]
      · simp only [upd_other _ _ _ fun e : u = t => hu (e ▸ hown)]
        exact h.other u hu
    · cases hs
  case release =>
    split at hs
    · rename_i rest htodo
      obtain ⟨hc, rfl⟩ := Option.ite_some_none_eq_some.1 hs
      have hown : s.owner = some t := hc.1
      obtain ⟨done, rem, rest', hcur, htd, hsh, hpr⟩ := h.own t hown
      obtain ⟨rfl, rfl⟩ := List.cons.inj (htodo.symm.trans htd)
      rw [List.append_nil] at hcur
      refine ⟨?_, fun _ => rfl, nofun, fun u _ => ?_⟩
      · show s.shared = applyAll ((s.log ++ [(t, s.cur)]).map (·.2)).flatten x0
        rw [List.map_append, List.flatten_append, applyAll_append, ← h.comm, hsh, hcur]
        simp
      · by_cases hut : u = t
        · subst hut
          rw [completed_release rfl u, if_pos rfl, hpr, List.append_assoc]
          simp only [upd_same]; rfl
        · simp only [upd_other _ _ _ hut]
          rw [completed_release rfl u, if_neg (Ne.symm hut), List.append_nil]
          exact h.other u (by rw [hown]; exact fun hc => hut (Option.some.inj hc).symm)
    · cases hs

theorem SInv.run (h : SInv x0 progs s) (sched : List (Tid × SAct)) : SInv x0 progs (s.run sched) :=
  run_inv (fun _ => rfl) (fun _ _ _ _ => rfl) sched (fun _ _ _ _ _ h => h.step) s h

end Paho.Thr.ThrSec
