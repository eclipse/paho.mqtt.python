/-
Handlers that change the message store, each related to the state before. `SameW`: `Same`, and `SInv` is kept (reconnect,
PUBREC). `SameQF s idx s'`: a `SameW` step whose trace is `Quiet` from `idx` on, i.e. nothing completes and packets go
out in store order (`_update_inflight`; the loop after CONNACK, one round of it `Round`, one unfolding `ResendStep`).
`AckStep`: a final acknowledgement, `ackState` followed by a quiet refill. `PubCase` / `PubSpec`: the ways `publish()`
can go / what it does to the store. `StepCase` puts every step under one of these three, whence `Inv.step`, `SInv.step`.
`Op.isFinalAck`, vocabulary of the C01 statements, stands at the top because `StepCase` needs it.
-/
import PahoProofs.Lemmas.OutInv
import PahoProofs.Properties.C19
import PahoProofs.Lemmas.PropsVbi
import PahoProofs.Lemmas.SessionFrame

namespace Paho

/-- is this op the delivery of a final acknowledgement (PUBACK / PUBCOMP) for packet id `mid`? -/
def Op.isFinalAck (mid : Nat) : Op → Bool
  | .rx (.pkt (.puback m)) _ => m = mid
  | .rx (.pkt (.pubcomp m)) _ => m = mid
  | _ => false

end Paho

namespace Paho.OutLemmas
open Paho Paho.S

theorem map_set_of_eq {α β : Type} (f : α → β) (l : List α) (idx : Nat) (m m' : α) (h : l[idx]? = some m)
    (hk : f m' = f m) : (l.set idx m').map f = l.map f := by
  obtain ⟨hlt, rfl⟩ := List.getElem?_eq_some_iff.mp h
  rw [List.map_set, hk, ← List.getElem_map f (h := by simpa using hlt), List.set_getElem_self]

theorem drop_of_getElem? {l : List OutMsg} {idx : Nat} {m : OutMsg} (h : l[idx]? = some m) :
    l.drop idx = m :: l.drop (idx + 1) := by
  obtain ⟨hlt, rfl⟩ := List.getElem?_eq_some_iff.mp h
  exact List.drop_eq_getElem_cons hlt

theorem any_eq_isSome_find {α : Type} (l : List α) (p : α → Bool) : l.any p = (l.find? p).isSome := by
  rw [Bool.eq_iff_iff, List.any_eq_true, List.find?_isSome]

theorem find_of_mem {l : List OutMsg} {m : OutMsg} (hn : (l.map (·.mid)).Nodup) (hm : m ∈ l) :
    l.find? (·.mid = m.mid) = some m := by
  cases h : l.find? (·.mid = m.mid) with
  | none => exact absurd (by simp) (List.find?_eq_none.mp h m hm)
  | some m' => rw [nodup_map_inj _ hn (List.mem_of_find?_eq_some h) hm (by simpa using List.find?_some h)]

/-- `Same`, and (W) the window invariant `SInv` is kept, which `Same` cannot say: it leaves `state` and `inflight` free -/
structure SameW (g : List Ev) (s s' : S) : Prop where
  same : Same g s s'
  sinv : SInv s → SInv s'

section sameW
variable {g g1 g2 : List Ev} {s s' a b c : S} {idx mid : Nat} {m : OutMsg}

theorem Low.sameW (h : Low g s s') : SameW g s s' := ⟨h.same, h.sinv⟩

theorem SameW.refl (s : S) : SameW [] s s := (Low.refl s).sameW

theorem SameW.trans (h1 : SameW g1 a b) (h2 : SameW g2 b c) : SameW (g1 ++ g2) a c :=
  ⟨h1.same.trans h2.same, fun h => h2.sinv (h1.sinv h)⟩

theorem SameW.trans_nil (h1 : SameW g a b) (h2 : SameW [] b c) : SameW g a c := List.append_nil g ▸ h1.trans h2

theorem resetOutMsg_state (c : Bool) (m : OutMsg) (hq : m.qos = 1 ∨ m.qos = 2) :
    (resetOutMsg c m).state ≠ .queued ∧ ((resetOutMsg c m).state = .resendPubrel → m.qos = 2) := by
  unfold resetOutMsg
  rcases hq with hq | hq
  · simp [hq]
  · rw [if_neg (by omega), if_neg (by omega), if_pos hq]
    split
    · simp [hq]
    · split <;> simp [hq]

theorem messagesReconnectResetOut_sameW (s : S) : SameW [] s s.messagesReconnectResetOut := by
  have hm : ∀ m, key (resetOutMsg s.checkCleanSession m) = key m ∧ (MsgOk s.proto m →
      MsgOk s.proto (resetOutMsg s.checkCleanSession m) ∧ (resetOutMsg s.checkCleanSession m).state ≠ .queued) := by
    intro m
    have hs := resetOutMsg_state s.checkCleanSession m
    obtain ⟨d, st, e⟩ := resetOutMsg_eq s.checkCleanSession m
    rw [e] at hs ⊢
    exact ⟨rfl, fun ok => ⟨ok.upd d (hs ok.qos).2, (hs ok.qos).1⟩⟩
  refine ⟨Same.upd (map_key_map (fun m => (hm m).1) _), fun h => ?_⟩
  have hx : ∀ x ∈ s.out.map (resetOutMsg s.checkCleanSession), MsgOk s.proto x ∧ x.state ≠ .queued := fun x hx => by
    obtain ⟨m, hm', rfl⟩ := List.mem_map.mp hx
    exact (hm m).2 (h.msg m hm')
  exact .of_no_queued (fun x h => (hx x h).1) fun x h => (hx x h).2

theorem reconnect_sameW (s : S) (ok : Bool) : SameW [] s (s.reconnect ok).1 := by
  unfold reconnect
  refine ite_ind (P := fun x : S × HRes => SameW [] s x.1) (fun _ => .refl s) fun _ => ?_
  extract_lets s1 s2 s3 s4 s5 s6 c s7 s8 s9
  have h4 : Low [] s s4 :=
    ((((Low.upd (s' := s1)).trans (sockClose_low _ _)).trans (failQueuedQos0_low _ _ fun _ h => h)).set_outq []
      (.of_mem nofun)).trans Low.upd
  have h6 : SameW [] s s6 := (h4.sameW.trans (messagesReconnectResetOut_sameW s4)).trans
    ((messagesReconnectResetIn_low _).trans (Low.emit_ng _ _ rfl)).sameW
  -- with the value of `s6` in sight, comparing a field of `s7` with that of `s6` unfolds the whole chain
  clear_value s6
  refine ite_ind (P := fun x : S × HRes => SameW [] s x.1) (fun _ => h6) fun _ => ?_
  have h7 : SameW [] s6 s7 := ⟨Same.upd rfl, fun h => h.of_eq⟩
  have h9 : Low [] s7 s9 := (Low.emit_ng _ _ rfl).trans
    (Low.ite (fun _ => Low.ite (fun _ => Low.emit_ng _ _ rfl) fun _ => Low.emit_ng _ _ rfl) fun _ => Low.refl _)
  exact (h6.trans h7).trans (h9.trans (sendConnect_low _)).sameW

theorem connect_sameW (s : S) (ok : Bool) : SameW [] s (s.connect ok).1 :=
  SameW.trans ((Low.trans (Low.ite (fun _ => Low.upd) fun _ => Low.refl s) (connectAsync_low _)).sameW)
    (reconnect_sameW _ ok)

/-- nothing completes, and the packets handed to the connection are for messages stored at `idx` or later, in store
order (`_update_inflight` and the retransmission loop walk over `_out_messages` by index). The order clause is for
distinct packet ids only: `pubrelGhost` finds the message by its packet id. -/
def Quiet (s : S) (idx : Nat) (g : List Ev) : Prop :=
  NoCompl g ∧ ((s.out.map (·.mid)).Nodup → (uidsOf g).Sublist ((s.out.drop idx).map (·.info)))

theorem Quiet.nil (s : S) (idx : Nat) : Quiet s idx [] := ⟨.nil, fun _ => List.nil_sublist _⟩

/-- a `SameW` step whose trace is `Quiet` from (F) `idx` on. Q is for `Quiet` here, not for the packet queue of `LowQ`. -/
def SameQF (s : S) (idx : Nat) (s' : S) : Prop := ∃ g, SameW g s s' ∧ Quiet s idx g

abbrev SameQ (s s' : S) : Prop := SameQF s 0 s'

theorem SameW.toQuiet (h : SameW [] s s') (idx : Nat) : SameQF s idx s' := ⟨[], h, .nil s idx⟩

theorem Low.toQuiet (h : Low [] s s') : SameQ s s' := h.sameW.toQuiet 0

theorem SameQF.trans_nil (h1 : SameQF a idx b) (h2 : SameW [] b c) : SameQF a idx c :=
  let ⟨g, h, hq⟩ := h1
  ⟨g, h.trans_nil h2, hq⟩

theorem SameQF.nil_trans (h1 : SameW [] a b) (h2 : SameQF b idx c) : SameQF a idx c := by
  obtain ⟨g, h, hc, hu⟩ := h2
  refine ⟨g, h1.trans h, hc, fun hn => ?_⟩
  rw [List.map_drop, ← infos_of_keys h1.same.keys, ← List.map_drop]
  exact hu (mids_of_keys h1.same.keys ▸ hn)

/-- one round of a loop over the store -/
theorem SameQF.cons (hm : a.out[idx]? = some m) (h1 : SameW g a b) (hc : NoCompl g)
    (hu : (a.out.map (·.mid)).Nodup → (uidsOf g).Sublist [m.info]) (h2 : SameQF b (idx + 1) c) : SameQF a idx c := by
  obtain ⟨g2, h2, hc2, hu2⟩ := h2
  refine ⟨g ++ g2, h1.trans h2, hc.append hc2, fun hn => ?_⟩
  rw [uidsOf_append, drop_of_getElem? hm, List.map_cons, List.map_drop, ← infos_of_keys h1.same.keys, ← List.map_drop]
  exact (hu hn).append (hu2 (mids_of_keys h1.same.keys ▸ hn))

theorem SameQF.ite1 {α : Type} {c : Prop} [Decidable c] {a b : S × α}
    (ha : c → SameQF s idx a.1) (hb : ¬ c → SameQF s idx b.1) : SameQF s idx (if c then a else b).1 :=
  ite_ind (P := fun x : S × α => SameQF s idx x.1) ha hb

/-- `_update_inflight` and the retransmission loop take the message at `idx` in hand: `m'` in its place, one more in flight -/
def bump (s : S) (idx : Nat) (m' : OutMsg) : S := { s with inflight := s.inflight + 1, out := s.out.set idx m' }

theorem bump_sameW {st : MS} (hm : s.out[idx]? = some m) (hst : SInv s → Waiting st) :
    SameW [] s (bump s idx { m with state := st }) :=
  ⟨Same.upd (map_set_of_eq key _ _ _ _ hm rfl), fun h => (h.set_wait hm (hst h) 1).slack fun _ h2 => by omega⟩

theorem wait_state (q : Nat) (st : MS) (hq : q = 1 ∨ q = 2) :
    Waiting (if q = 1 then MS.waitPuback else if q = 2 then MS.waitPubrec else st) := by
  rcases hq with e | e <;> simp [e, Waiting]

theorem updateInflight_sameQ (fuel : Nat) : ∀ (s : S) (idx : Nat), SameQF s idx (s.updateInflight fuel idx).1 := by
  induction fuel with
  | zero => exact fun s idx => (SameW.refl s).toQuiet idx
  | succ n ih =>
    intro s idx
    unfold updateInflight
    split
    · exact (SameW.refl s).toQuiet idx
    · rename_i m hm
      refine .ite1 (fun _ => (SameW.refl s).toQuiet idx) fun _ => .ite1 (fun _ => ?_) fun _ => (SameW.refl s).toQuiet idx
      refine .ite1 (fun _ => ?_) fun _ => .cons hm (.refl s) .nil (fun _ => List.nil_sublist _) (ih s (idx + 1))
      extract_lets m' s1
      have h1 : SameW [] s s1 :=
        bump_sameW hm fun hi => wait_state m.qos m.state (hi.msg m (List.mem_of_getElem? hm)).qos
      split
      rename_i s2 rc he
      exact .cons hm (h1.trans (sendPublish_low he (Or.inl rfl)).sameW) (publishGhost_quiet ..).1
        (fun _ => (publishGhost_quiet ..).2) (.ite1 (fun _ => (SameW.refl _).toQuiet _) fun _ => ih _ _)

/-- after a slot was freed, one pass of `_update_inflight` restores the full-window property. Through the loop: no message
before `idx` is queued, and the fuel covers the messages from `idx` on. -/
theorem updateInflight_refill (fuel : Nat) : ∀ (s : S) (idx : Nat), SInvP 1 s → s.sock.isNone = false →
    (∀ m ∈ s.out.take idx, m.state ≠ .queued) → s.out.length < fuel + idx →
    SInv (s.updateInflight fuel idx).1 := by
  have noq : ∀ {s : S} {idx : Nat}, SInvP 1 s → (∀ m ∈ s.out.take idx, m.state ≠ .queued) →
      s.out.length ≤ idx → SInv s := fun h hpre hlen =>
    .of_no_queued h.msg (by rwa [List.take_of_length_le hlen] at hpre)
  induction fuel with
  | zero => exact fun s idx h _ hpre hf => noq (s := s) h hpre (by omega)
  | succ n ih =>
    intro s idx h hsk hpre hf
    unfold updateInflight
    split
    · exact noq h hpre (List.getElem?_eq_none_iff.mp ‹_›)
    · rename_i m hm
      have hmem := List.mem_of_getElem? hm
      rw [if_neg (by simp [hsk])]
      refine ite_ind (P := fun x : S × RC => SInv x.1) (fun hlt => ?_) fun hge => ?_
      · refine ite_ind (P := fun x : S × RC => SInv x.1) (fun hq => ?_) fun hq => ?_
        · extract_lets m' s1
          have h1 : SInv s1 := h.set_wait hm (wait_state m.qos m.state (h.msg m hmem).qos) 1
          split
          rename_i s2 rc he
          have h2 := (sendPublish_low he (Or.inl rfl)).sinv h1
          exact ite_ind (P := fun x : S × RC => SInv x.1) (fun _ => h2) fun _ => (updateInflight_sameQ n _ _).elim fun _ h => h.1.sinv h2
        · refine ih s (idx + 1) h hsk (fun x hx => ?_) (by omega)
          rw [List.take_add_one, hm] at hx
          rcases List.mem_append.mp hx with hx | hx
          · exact hpre x hx
          · cases List.mem_singleton.mp hx
            exact fun hst => hq ⟨by have := (h.msg m hmem).qos; omega, hst⟩
      · exact h.slack fun _ _ => by omega

theorem doOnPublish_eq (hf : s.out.find? (·.mid = mid) = some m) :
    (s.doOnPublish mid).1 = if m.qos > 0 ∧ s.cfg.maxInflight > 0 then
      ((ackState s mid m).updateInflight ((ackState s mid m).out.length + 1) 0).1 else ackState s mid m := by
  unfold doOnPublish
  extract_lets s1
  have hf1 : s1.out.find? (·.mid = mid) = some m := hf
  split
  · rename_i h; rw [hf1] at h; cases h
  rename_i m' hm'
  rw [hf1] at hm'; cases hm'
  extract_lets s2 s3 s4 s5
  by_cases hq : m.qos > 0
  · have e : s5 = ackState s mid m := by
      unfold ackState; rw [if_pos hq]; simp only [s5, s4, s3, s2, s1, emit, setInfo]
    clear_value s5
    subst e
    rw [if_pos hq]
    refine ite_ind (P := fun x : S × RC => x.1 = _) (fun h => ?_) fun h => ?_
    · rw [if_pos ⟨hq, h⟩]
      generalize (ackState s mid m).updateInflight _ 0 = r
      exact ite_ind (P := fun x : S × RC => x.1 = r.1) (fun _ => rfl) fun _ => rfl
    · rw [if_neg fun h' => h h'.2]
  · have e : s4 = ackState s mid m := by
      unfold ackState; rw [if_neg hq]; simp only [s4, s3, s2, s1, emit, setInfo]
    rw [if_neg hq, if_neg (fun h => hq h.1), e]

/-- `_do_on_publish` for a stored message: pop + mark, then a quiet rewriting (the window refill); with a connection
open `SInv` is kept -/
def AckStep (s : S) (mid : Nat) (m : OutMsg) (s' : S) : Prop :=
  (∃ g, Same g (ackState s mid m) s' ∧ Quiet (ackState s mid m) 0 g) ∧ (SInv s → s.sock.isNone = false → SInv s')

theorem AckStep.trans_nil (h1 : AckStep s mid m a) (h2 : Low [] a b) : AckStep s mid m b :=
  let ⟨⟨g, h, hq⟩, hi⟩ := h1
  ⟨⟨g, h.trans_nil h2.same, hq⟩, fun h hs => h2.sinv (hi h hs)⟩

theorem doOnPublish_ack (hf : s.out.find? (·.mid = mid) = some m) : AckStep s mid m (s.doOnPublish mid).1 := by
  rw [doOnPublish_eq hf]
  refine ite_ind (P := AckStep s mid m) (fun _ => ?_) fun hc => ?_
  · obtain ⟨g, h, hq⟩ := updateInflight_sameQ ((ackState s mid m).out.length + 1) (ackState s mid m) 0
    exact ⟨⟨g, h.same, hq⟩, fun hi hsk => updateInflight_refill _ _ 0 (ackState_sinv s mid m hi) hsk
      (fun _ hx => nomatch hx) (by omega)⟩
  · refine ⟨⟨[], Same.refl _, .nil _ 0⟩, fun hi _ => ?_⟩
    have hA := ackState_sinv s mid m hi
    have hq := (hi.msg m (List.mem_of_find?_eq_some hf)).qos
    exact hA.slack fun hpos _ => absurd ⟨by omega, hpos⟩ hc

theorem handlePubackcomp_none (h : s.out.find? (·.mid = mid) = none) : (s.handlePubackcomp mid).1 = s := by
  rw [handlePubackcomp, any_eq_isSome_find, h]; rfl

theorem handlePubackcomp_some (h : s.out.find? (·.mid = mid) = some m) :
    AckStep s mid m (s.handlePubackcomp mid).1 := by
  rw [handlePubackcomp, any_eq_isSome_find, h]
  exact doOnPublish_ack h

theorem handlePubrec_sameW (s : S) (mid : Nat) : ∃ g, SameW g s (s.handlePubrec mid).1 ∧ NoCompl g ∧
    (uidsOf g = [] ∨ ∃ i ∈ s.out.map (·.info), uidsOf g = [i]) := by
  unfold handlePubrec
  by_cases h : s.out.any (·.mid = mid) = true
  · rw [if_pos h]
    extract_lets s1
    have h1 : SameW [] s s1 :=
      ⟨Same.upd (map_key_map (fun m => by split <;> rfl) _),
        fun h => h.map_wait (st := .waitPubcomp) (by simp [Waiting]) fun m => by split <;> simp⟩
    obtain ⟨hc, hu⟩ := pubrelGhost_quiet s1 mid
    refine ⟨_, h1.trans (sendPubrel_low s1 mid true).sameW, hc, hu.imp_right fun ⟨m, hm, _, e⟩ => ⟨m.info, ?_, e⟩⟩
    rw [← infos_of_keys h1.same.keys]; exact List.mem_map_of_mem hm
  · rw [if_neg h]; exact ⟨[], .refl s, .nil, Or.inl rfl⟩

theorem handlePubrec_same (s : S) (mid : Nat) :
    ∃ g, Same g s (s.handlePubrec mid).1 ∧ NoCompl g ∧ (uidsOf g).length ≤ 1 := by
  obtain ⟨g, h, hc, hu⟩ := handlePubrec_sameW s mid
  refine ⟨g, h.same, hc, ?_⟩
  rcases hu with e | ⟨_, _, e⟩ <;> rw [e] <;> simp

theorem handlePubrec_sameQ (s : S) (mid : Nat) : SameQ s (s.handlePubrec mid).1 := by
  obtain ⟨g, h, hc, hu⟩ := handlePubrec_sameW s mid
  refine ⟨g, h, hc, fun _ => ?_⟩
  rcases hu with e | ⟨i, hi, e⟩ <;> rw [e]
  · exact List.nil_sublist _
  · exact List.singleton_sublist.mpr hi

/-- `evs` hands `m` to connection `c` as its state asks: PUBLISH for `publish`, PUBREL for `resendPubrel` -/
def Retx (c : Nat) (evs : List Ev) (m : OutMsg) : Prop :=
  (m.state = .publish → ∃ d, Ev.qPublish c m.info m.mid m.qos d ∈ evs) ∧
  (m.state = .resendPubrel → Ev.qPubrel c m.info m.mid ∈ evs)

theorem Retx.mono {c : Nat} {evs evs' : List Ev} (h : Retx c evs m) (hsub : ∀ e ∈ evs, e ∈ evs') : Retx c evs' m :=
  ⟨fun hp => let ⟨d, hd⟩ := h.1 hp; ⟨d, hsub _ hd⟩, fun hp => hsub _ (h.2 hp)⟩

theorem packetQueue_indirect_rc (s : S) (pkt : OutPkt) : (s.packetQueue pkt false).2 = rcSuccess := by
  unfold packetQueue
  extract_lets s0 s1
  rw [if_neg (by simp)]

theorem sendPublish_indirect {c : Nat} (hs : s.sock = some c) {mid : Nat} {topic payload : Bytes} {qos : Nat}
    (he : EncOk s.proto mid topic payload qos) (retain dup : Bool) (u : Nat) :
    (s.sendPublish mid topic payload qos retain dup none false (some u)).2 = rcSuccess ∧
    publishGhost s mid topic payload qos retain dup (some u) = [.qPublish c u mid qos dup] := by
  obtain ⟨b, hb⟩ := he retain dup
  simp only [sendPublish, publishGhost, hs, hb]
  exact ⟨packetQueue_indirect_rc _ _, trivial⟩

theorem sendPubrel_indirect_rc (s : S) (mid : Nat) : (s.sendPubrel mid false).2 = rcSuccess := by
  unfold sendPubrel
  extract_lets s1
  unfold sendCmdMid
  split
  · rfl
  · exact packetQueue_indirect_rc _ _

/-- one round of the retransmission loop for the `m` stored at `idx`, as (state, result, stop flag): a rewriting of `m`
alone; on an open connection under the invariants it does not stop the loop and hands `m` over if its state asks for it -/
def Round (s : S) (idx : Nat) (m : OutMsg) (x : S × RC × Bool) : Prop :=
  ∃ g, SameW g s x.1 ∧ NoCompl g ∧ ((s.out.map (·.mid)).Nodup → (uidsOf g).Sublist [m.info]) ∧
    ∀ c, s.sock = some c → SInv s → (s.out.map (·.mid)).Nodup →
      x.2.2 = false ∧ (x.1.sock = some c ∨ x.1.sock = none) ∧ x.1.out.drop (idx + 1) = s.out.drop (idx + 1) ∧ Retx c g m

theorem Round.pub (hm : s.out[idx]? = some m) (hp : m.state = .publish) {st : MS} {s2 : S} {rc : RC}
    (hr : (bump s idx { m with state := st }).sendPublish m.mid m.topic m.payload m.qos m.retain m.dup none false
      (some m.info) = (s2, rc)) (hst : Waiting st) : Round s idx m (s2, rc, decide (rc ≠ rcSuccess)) := by
  have hl := sendPublish_low hr (Or.inl rfl)
  refine ⟨_, (bump_sameW hm fun _ => hst).trans hl.sameW, (publishGhost_quiet ..).1,
    fun _ => (publishGhost_quiet ..).2, fun c hs hi _ => ?_⟩
  obtain ⟨hrc, hg⟩ := sendPublish_indirect (s := bump s idx { m with state := st }) hs
    (hi.msg m (List.mem_of_getElem? hm)).enc m.retain m.dup m.info
  rw [hr] at hrc
  refine ⟨by simp [show rc = rcSuccess from hrc], hl.sock_of hs,
    by rw [hl.out]; exact List.drop_set_of_lt (Nat.lt_succ_self idx),
    fun _ => ⟨m.dup, by rw [hg]; simp⟩, fun e => nomatch hp.symm.trans e⟩

theorem Round.rel (hm : s.out[idx]? = some m) (hp : m.state = .resendPubrel)
    {s2 : S} {rc : RC} (hr : (bump s idx { m with state := .waitPubcomp }).sendPubrel m.mid false = (s2, rc)) :
    Round s idx m (s2, rc, decide (rc ≠ rcSuccess)) := by
  have hl := sendPubrel_low (bump s idx { m with state := .waitPubcomp }) m.mid false
  rw [hr] at hl
  have h1 : SameW [] s (bump s idx { m with state := .waitPubcomp }) := bump_sameW hm fun _ => by simp [Waiting]
  -- under the packet id of `m` the rewritten store holds the rewritten `m`
  have hf : (s.out.map (·.mid)).Nodup → (s.out.set idx { m with state := .waitPubcomp }).find? (·.mid = m.mid) =
      some { m with state := .waitPubcomp } := fun hn =>
    find_of_mem (m := { m with state := .waitPubcomp }) (mids_of_keys h1.same.keys ▸ hn)
      (List.mem_of_getElem? (List.getElem?_set_self (List.getElem?_eq_some_iff.mp hm).1))
  refine ⟨_, h1.trans hl.sameW, (pubrelGhost_quiet ..).1, fun hn => ?_, fun c hs hi hn => ?_⟩
  · rcases hs : s.sock with _ | _ <;> simp only [pubrelGhost, bump, hs, hf hn]
    · exact List.nil_sublist _
    · exact List.Sublist.refl _
  · have hrc : rc = rcSuccess := (congrArg Prod.snd hr).symm.trans (sendPubrel_indirect_rc _ _)
    refine ⟨by simp [hrc], hl.sock_of hs, by rw [hl.out]; exact List.drop_set_of_lt (Nat.lt_succ_self idx),
      fun e => (nomatch hp.symm.trans e), fun _ => ?_⟩
    simp only [pubrelGhost, bump, hs, hf hn]
    exact List.mem_singleton_self _

theorem Round.skip (rc : RC) (h1 : ¬ (m.qos = 1 ∧ m.state = .publish))
    (h2 : ¬ (m.qos = 2 ∧ m.state = .publish)) (h3 : ¬ (m.qos = 2 ∧ m.state = .resendPubrel))
    (hm : s.out[idx]? = some m) : Round s idx m (s, rc, false) :=
  ⟨[], .refl s, .nil, fun _ => List.nil_sublist _, fun _ hs hi _ =>
    have ok := hi.msg m (List.mem_of_getElem? hm)
    ⟨rfl, Or.inl hs, rfl, fun hp => ok.qos.elim (fun hq => absurd ⟨hq, hp⟩ h1) fun hq => absurd ⟨hq, hp⟩ h2,
      fun hp => absurd ⟨ok.rel hp, hp⟩ h3⟩⟩

/-- one unfolding of the retransmission loop at `idx`, the work on the message there abstracted to `Round` -/
inductive ResendStep (s : S) (n idx : Nat) : S × RC → Prop
  | done (h : s.out[idx]? = none ∨ s.sock = none) (rc : RC) : ResendStep s n idx (s, rc)
  | queued (m : OutMsg) (hm : s.out[idx]? = some m) (hq : m.state = .queued) :
      ResendStep s n idx (s.loopWrite.1, rcSuccess)
  | round (m : OutMsg) (hm : s.out[idx]? = some m) (x : S × RC × Bool) (hx : Round s idx m x) :
      ResendStep s n idx (if x.2.2 then (x.1, x.2.1) else x.1.loopWrite.1.connackResend n (idx + 1) x.2.1)

theorem connackResend_step (s : S) (n idx : Nat) (rc : RC) :
    ResendStep s n idx (s.connackResend (n + 1) idx rc) := by
  unfold connackResend
  split
  · exact .done (Or.inl ‹_›) rc
  rename_i m hm
  refine ite_ind (P := ResendStep s n idx) (fun h => .done (Or.inr (by simpa using h)) _) fun _ =>
    ite_ind (.queued m hm) fun _ => ?_
  · split
    rename_i s2 rc2 stop heq
    have hx : Round s idx m (s2, rc2, stop) := by
      rw [← heq]
      refine ite_ind (P := Round s idx m) (fun hc => ?_) fun h1 => ite_ind (fun hc => ?_) fun h2 =>
        ite_ind (fun hc => ?_) fun h3 => .skip rc h1 h2 h3 hm
      · extract_lets s1; split; exact .pub hm hc.2 ‹_› (by simp [Waiting])
      · extract_lets s1; split; exact .pub hm hc.2 ‹_› (by simp [Waiting])
      · extract_lets s1; split; exact .rel hm hc.2 ‹_›
    exact .round m hm _ hx

theorem connackResend_sameQ (fuel : Nat) : ∀ (s : S) (idx : Nat) (rc : RC),
    SameQF s idx (s.connackResend fuel idx rc).1 := by
  induction fuel with
  | zero => exact fun s idx _ => (SameW.refl s).toQuiet idx
  | succ n ih =>
    intro s idx rc
    have h := connackResend_step s n idx rc
    generalize s.connackResend (n + 1) idx rc = r at h ⊢
    cases h with
    | done => exact (SameW.refl s).toQuiet idx
    | queued => exact (loopWrite_low s).sameW.toQuiet idx
    | round m hm x hx =>
      obtain ⟨g, h, hc, hu, -⟩ := hx
      exact .cons hm h hc hu (.ite1 (fun _ => (SameW.refl _).toQuiet _) fun _ => .nil_trans (loopWrite_low _).sameW (ih ..))

theorem handleConnack_sameQ (s : S) (sp : Bool) (result : Nat) (ok : Bool) :
    SameQ s (s.handleConnack sp result ok).1 := by
  unfold handleConnack
  extract_lets pre s0 s1 shown s3
  clear_value pre
  cases pre
  · refine .ite1 (fun hp => .ite1 (fun _ => (SameW.refl s).toQuiet 0) fun _ => ?_) fun _ => ?_
    · have h0 : SameW [] s s0 := ⟨Same.upd rfl, fun h => ⟨fun m hm =>
        (h.msg m hm).proto (p' := 3) (by rw [hp.1]; decide) (by decide), h.q1, h.q2⟩⟩
      have h2 := h0.trans (reconnect_sameW s0 ok)
      generalize s0.reconnect ok = r at h2 ⊢
      split
      · exact (h2.trans_nil (Low.emit_ng _ _ rfl).sameW).toQuiet 0
      · exact h2.toQuiet 0
    · have h3 : Low [] s s3 := Low.trans (b := s1) (Low.ite (fun _ => Low.upd) fun _ => Low.refl s) (Low.emit_ng _ _ rfl)
      refine .ite1 (fun _ => ?_) fun _ => .ite1 (fun _ => h3.toQuiet) fun _ => h3.toQuiet
      have h := SameQF.nil_trans h3.sameW (connackResend_sameQ (s3.out.length + 1) s3 0 rcSuccess)
      generalize s3.connackResend (s3.out.length + 1) 0 rcSuccess = r at h ⊢
      exact h
  · exact (SameW.refl s).toQuiet 0

theorem packetHandle_other (s : S) (p : RxPkt) (ok : Bool)
    (h : ∀ mid, (Op.rx (.pkt p) ok).isFinalAck mid = true → s.out.find? (·.mid = mid) = none) :
    SameQ s (s.packetHandle p ok).1 := by
  cases p with
  | connack sp rc => exact handleConnack_sameQ _ _ _ _
  | publish m => exact (handlePublish_low _ _).toQuiet
  | puback mid | pubcomp mid =>
    simp only [packetHandle]
    rw [handlePubackcomp_none (h mid (decide_eq_true rfl))]; exact (SameW.refl s).toQuiet 0
  | pubrec mid => exact handlePubrec_sameQ _ _
  | pubrel mid => exact (handlePubrel_low _ _).toQuiet
  | suback mid code | unsuback mid => exact (Low.emit_ng _ _ rfl).toQuiet
  | pingreq => exact (sendSimple_low _ _).toQuiet
  | pingresp => exact (Low.upd : Low [] s _).toQuiet
  | disconnect r =>
    simp only [packetHandle]
    split
    · exact (handleDisconnect_low _ _).toQuiet
    · exact (SameW.refl s).toQuiet 0
  | badcmd | malformed => exact (SameW.refl s).toQuiet 0

theorem loopRead_other (s : S) (item : RxItem) (ok : Bool)
    (h : ∀ mid, (Op.rx item ok).isFinalAck mid = true → s.sock = none ∨ s.out.find? (·.mid = mid) = none) :
    SameQ s (s.loopRead item ok).1 := by
  cases item with
  | pkt p =>
    cases hs : s.sock with
    | none => exact (loopRead_nopkt_low s _ ok (Or.inl hs)).toQuiet
    | some c =>
      exact (packetHandle_other s p ok fun mid hm => (h mid hm).resolve_left (by rw [hs]; nofun)).trans_nil
        (loopRead_pkt_low s p ok c hs).sameW
  | _ => exact (loopRead_nopkt_low s _ ok (Or.inr fun _ h => RxItem.noConfusion h)).toQuiet

theorem loopRead_ack (s : S) (item : RxItem) (ok : Bool) {c : Nat}
    (hi : (Op.rx item ok).isFinalAck mid = true) (hs : s.sock = some c) (hf : s.out.find? (·.mid = mid) = some m) :
    AckStep s mid m (s.loopRead item ok).1 := by
  have ack : ∀ m0, m0 = mid → AckStep s mid m (s.loopRead (.pkt (.puback m0)) ok).1 ∧
      AckStep s mid m (s.loopRead (.pkt (.pubcomp m0)) ok).1 := fun m0 e =>
    have h := handlePubackcomp_some (e ▸ hf)
    e ▸ ⟨h.trans_nil (loopRead_pkt_low s (.puback m0) ok c hs), h.trans_nil (loopRead_pkt_low s (.pubcomp m0) ok c hs)⟩
  cases item with
  | pkt p =>
    cases p with
    | puback m0 => exact (ack m0 (of_decide_eq_true hi)).1
    | pubcomp m0 => exact (ack m0 (of_decide_eq_true hi)).2
    | _ => cases hi
  | _ => cases hi

theorem step_ack (s : S) (op : Op) {c : Nat} (h : op.isFinalAck mid = true) (hs : s.sock = some c)
    (hf : s.out.find? (·.mid = mid) = some m) : AckStep s mid m (s.step op) := by
  cases op with
  | rx item ok => exact (loopRead_ack s item ok h hs hf).trans_nil (Low.emit_hres ..)
  | _ => cases h

end sameW

/-- `publish()` stores its result in the new info and reports it -/
def pubDone (s t : S) (rc : RC) : S :=
  (t.setInfo s.infos.length (fun x => { x with rc := rc })).emit (.ret rc (some (midNext s.lastMid)))

theorem pubDone_out (s t : S) (rc : RC) : (pubDone s t rc).out = t.out := rfl

theorem pubDone_log (s t : S) (rc : RC) :
    (pubDone s t rc).log = t.log ++ [.ret rc (some (midNext s.lastMid))] := rfl

/-- the record `publish()` stores for a QoS 1/2 message -/
def pubMsg (s : S) (qos : Nat) (topic payload : Bytes) (retain : Bool) (st : MS) : OutMsg :=
  { mid := midNext s.lastMid, qos := qos, state := st, dup := false, retain := retain, topic := topic,
    payload := payload, info := s.infos.length }

/-- the ways `publish()` can go once the arguments have passed the checks -/
inductive PubCase (s : S) (qos : Nat) (topic payload : Bytes) (retain : Bool) : S → Prop
  | qos0 (h0 : qos = 0) (s3 : S) (rc : RC)
      (hr : (pubState s).sendPublish (midNext s.lastMid) topic payload 0 retain false (some s.infos.length) true
        (some s.infos.length) = (s3, rc)) : PubCase s qos topic payload retain (pubDone s s3 rc)
  | refused (h0 : qos ≠ 0) : PubCase s qos topic payload retain (pubDone s (pubState s) rcQueueSize)
  | sent (h0 : qos ≠ 0) (hcol : s.out.any (·.mid = midNext s.lastMid) = false)
      (hwin : s.cfg.maxInflight = 0 ∨ s.inflight < s.cfg.maxInflight) (s3 : S) (rc : RC)
      (hr : S.sendPublish { pubState s with
          out := s.out ++ [pubMsg s qos topic payload retain (if qos = 1 then .waitPuback else .waitPubrec)],
          inflight := s.inflight + 1 } (midNext s.lastMid) topic payload qos retain false (some s.infos.length) true
        (some s.infos.length) = (s3, rc)) :
      PubCase s qos topic payload retain (pubDone s (if rc = rcNoConn then
        { s3 with inflight := s3.inflight - 1,
                  out := s3.out.map (fun (x : OutMsg) =>
                    if x.mid = midNext s.lastMid then { x with state := .publish } else x) } else s3) rc)
  | queued (h0 : qos ≠ 0) (hcol : s.out.any (·.mid = midNext s.lastMid) = false)
      (hwin : ¬ (s.cfg.maxInflight = 0 ∨ s.inflight < s.cfg.maxInflight)) :
      PubCase s qos topic payload retain
        (pubDone s { pubState s with out := s.out ++ [pubMsg s qos topic payload retain .queued] } rcSuccess)

section publish
variable {s s' : S} {qos : Nat} {topic payload : Bytes} {g : List Ev}

theorem publish_invalid {e : Exc} (retain : Bool)
    (h : publishCheckFull s.proto topic qos .bytes payload.length (if s.proto = 5 then 1 else 0) = some e) :
    ∃ n, s.publish qos topic payload retain = s.emit (.exc n) := by
  unfold publish
  rw [h]
  split <;> first | exact ⟨_, rfl⟩ | (rename_i h'; cases h')

theorem publish_case (retain : Bool)
    (h : publishCheckFull s.proto topic qos .bytes payload.length (if s.proto = 5 then 1 else 0) = none) :
    PubCase s qos topic payload retain (s.publish qos topic payload retain) := by
  unfold publish
  rw [h]
  split
  · rename_i h'; cases h'
  · rename_i h'; cases h'
  extract_lets mid s1 N s2 m m' sB sB'
  refine ite_ind (P := PubCase s qos topic payload retain) (fun h0 => ?_) fun h0 =>
    ite_ind (fun _ => .refused h0) fun _ => ite_ind (fun _ => .refused h0) fun hcol =>
    ite_ind (fun hwin => ?_) fun hwin => .queued (s := s) h0 (by simpa using hcol) hwin
  · split
    exact .qos0 h0 _ _ ‹_›
  · split
    exact .sent (s := s) h0 (by simpa using hcol) hwin _ _ ‹_›

theorem pubDone_low (s t : S) (rc : RC) : Low [] t (pubDone s t rc) :=
  ((Low.refl t).setInfo s.infos.length (fun x => { x with rc := rc }) fun _ => Or.inl rfl).trans (Low.emit_ng _ _ rfl)

/-- `publish()` and the store: the keys stay, or (QoS 1/2, fresh packet id) one message is appended under the new packet id
and info; nothing completes; both invariants are kept -/
structure PubSpec (s s' : S) (qos : Nat) : Prop where
  keys : s'.out.map key = s.out.map key ∨
    (qos ≠ 0 ∧ qos ≤ 2 ∧ (s.out.any (·.mid = midNext s.lastMid) = false) ∧
      s'.out.map key = s.out.map key ++ [(midNext s.lastMid, qos, s.infos.length)])
  log : ∃ evs, s'.log = s.log ++ evs ∧ NoCompl (evs.filter isGhost)
  inv : Inv s → Inv s'
  sinv : Inv s → SInv s → SInv s'

/-- `publish()` that fails the checks -/
theorem PubSpec.of_low (h : Low [] s s') : PubSpec s s' qos :=
  ⟨Or.inl (by rw [h.out]), let ⟨evs, he, hg⟩ := h.log; ⟨evs, he, hg ▸ .nil⟩, fun hi => hi.same h.same .nil,
    fun _ => h.sinv⟩

/-- `publish()` that stores nothing: `q` may hold one more QoS 0 packet, for the new info -/
theorem PubSpec.of_lowQ {q : List OutPkt} (h : LowQ g q (pubState s) s') (hc : NoCompl g)
    (hq : ∀ p ∈ q, ∀ i, p.qos = 0 → p.info = some i → HasQ0 s.outq i ∨ i = s.infos.length) :
    PubSpec s s' qos := by
  refine ⟨Or.inl (by rw [h.out]; rfl), ?_, fun hi => hi.of_pubState.lowQ h hc fun p hp h0 i hpi => ?_,
    fun _ hi => h.sinv hi.of_eq⟩
  · obtain ⟨evs, he, hg⟩ := h.log
    exact ⟨evs, he, hg ▸ hc⟩
  · have hN : s.infos.length ∉ s.out.map (·.info) := fun h => absurd (hi.info_lt h) (Nat.lt_irrefl _)
    rcases hq p hp i h0 hpi with ⟨p', hp', e1, e2⟩ | rfl
    · have := hi.pinv.2 p' hp' e1 i e2
      exact ⟨by simp [pubState]; omega, fun h => this (Or.inr h)⟩
    · exact ⟨by simp [pubState], hN⟩

/-- `publish()` that stores `m'` -/
theorem PubSpec.of_same (m' : OutMsg) (i : Int)
    (h : Same g { pubState s with out := s.out ++ [m'], inflight := i } s') (hc : NoCompl g)
    (hk : key m' = (midNext s.lastMid, qos, s.infos.length))
    (hq : qos ≠ 0) (hq2 : qos ≤ 2) (hcol : s.out.any (·.mid = midNext s.lastMid) = false)
    (hsinv : Inv s → SInv s → SInv s') : PubSpec s s' qos := by
  refine ⟨Or.inr ⟨hq, hq2, hcol, by rw [h.keys]; simp [hk]⟩, ?_, fun hi => (hi.of_pubStore m' i hk hq hq2 hcol).same h hc,
    hsinv⟩
  obtain ⟨evs, he, hg⟩ := h.log
  exact ⟨evs, he, hg ▸ hc⟩

/-- a `publish()` that passes the checks stores a message that can be encoded -/
theorem encOk_of_check (proto : Nat) (mid : Nat) (topic payload : Bytes) (qos : Nat) (hmid : mid ≤ 65535)
    (h : publishCheckFull proto topic (qos : Int) .bytes payload.length (if proto = 5 then 1 else 0) = none) :
    EncOk proto mid topic payload qos := by
  intro r d
  obtain ⟨htl, -, -, hrl⟩ := publishCheckFull_none h
  have hq : ((qos : Int) > 0) ↔ qos > 0 := Int.natCast_pos
  simp only [publishRemLen, hq] at hrl
  obtain ⟨pp, hpp, hppl⟩ : ∃ pp, packProps proto none = .ok pp ∧ pp.length = (if proto = 5 then 1 else 0) := by
    by_cases hp : proto = 5
    · exact ⟨[0], by simp [packProps, hp], by simp [hp]⟩
    · exact ⟨[], by simp [packProps, hp], by simp [hp]⟩
  simp only [encPublish, hpp, bind, Except.bind, PropsLemmas.remLenEncChecked_eq, hppl, if_pos hrl,
    PropsLemmas.str16_eq, if_pos htl]
  split
  · rw [PropsLemmas.packU16_ok hmid]; exact ⟨_, rfl⟩
  · exact ⟨_, rfl⟩

theorem pubMsg_ok (hI : Inv s) (h0 : qos ≠ 0) (retain : Bool) {st : MS} (hst : st ≠ .resendPubrel)
    (hv : publishCheckFull s.proto topic qos .bytes payload.length (if s.proto = 5 then 1 else 0) = none) :
    MsgOk s.proto (pubMsg s qos topic payload retain st) :=
  have hq2 := (publishCheckFull_none hv).2.2.1
  have hmid := (c14_range _ hI.lastMid).2
  ⟨by show qos = 1 ∨ qos = 2; omega, fun e => absurd e hst, hmid, encOk_of_check _ _ _ _ _ hmid hv⟩

theorem publish_spec (s : S) (qos : Nat) (topic payload : Bytes) (retain : Bool) :
    PubSpec s (s.publish qos topic payload retain) qos := by
  cases hv : publishCheckFull s.proto topic qos .bytes payload.length (if s.proto = 5 then 1 else 0) with
  | some e =>
    obtain ⟨n, e⟩ := publish_invalid retain hv
    exact .of_low (e ▸ Low.emit_ng _ _ rfl)
  | none =>
  have hq2 : qos ≤ 2 := by have := (publishCheckFull_none hv).2.2.1; omega
  have h := publish_case retain hv
  generalize s.publish qos topic payload retain = r at h ⊢
  cases h with
  | qos0 h0 s3 rc hr =>
    have hl := sendPublish_lowQ hr
    refine .of_lowQ (hl.trans_nil (pubDone_low s s3 rc)) (publishGhost_quiet ..).1 fun p hp i h1 h2 => ?_
    rcases List.mem_append.mp hp with hp | hp
    · exact Or.inl ⟨p, hp, h1, h2⟩
    · cases List.mem_singleton.mp hp
      exact Or.inr (Option.some.inj h2).symm
  | refused h0 =>
    exact .of_lowQ (pubDone_low s (pubState s) _) .nil fun p hp i h1 h2 => Or.inl ⟨p, hp, h1, h2⟩
  | sent h0 hcol hwin s3 rc hr =>
    have hl := sendPublish_low hr (Or.inr h0)
    -- the window has room, so nothing is queued, before or after
    have h3 : Inv s → SInv s → ∀ x ∈ s3.out, MsgOk s3.proto x ∧ x.state ≠ .queued :=
      fun hI hi x hx => by
        rw [hl.out] at hx; rw [hl.proto]
        rcases List.mem_append.mp hx with hx | hx
        · refine ⟨hi.msg x hx, fun hq => ?_⟩
          have := hi.q2 ⟨x, hx, hq⟩
          rcases hwin with hw | hw <;> omega
        · cases List.mem_singleton.mp hx
          exact ⟨pubMsg_ok hI h0 retain (by split <;> nofun) hv, fun e => by split at e <;> cases e⟩
    have fin : ∀ s4, Same [] s3 s4 → ((∀ x ∈ s3.out, MsgOk s3.proto x ∧ x.state ≠ .queued) →
        ∀ x ∈ s4.out, MsgOk s4.proto x ∧ x.state ≠ .queued) → PubSpec s (pubDone s s4 rc) qos := fun s4 h4 hs4 =>
      .of_same _ _ ((hl.same.trans_nil h4).trans_nil (pubDone_low s s4 rc).same) (publishGhost_quiet ..).1
        rfl h0 hq2 hcol fun hI hi => (pubDone_low s s4 rc).sinv
          (.of_no_queued (fun x hx => (hs4 (h3 hI hi) x hx).1) fun x hx => (hs4 (h3 hI hi) x hx).2)
    refine ite_ind (P := fun s4 => PubSpec s (pubDone s s4 rc) qos) (fun _ => ?_) fun _ => fin s3 (.refl s3) id
    -- no connection: the new message goes back to state `publish`
    refine fin _ (Same.upd (map_key_map (fun x => by split <;> rfl) _)) fun h3 x hx => ?_
    obtain ⟨y, hy, rfl⟩ := List.mem_map.mp hx
    exact ite_ind (P := fun z : OutMsg => MsgOk s3.proto z ∧ z.state ≠ .queued)
      (fun _ => ⟨(h3 y hy).1.upd y.dup nofun, nofun⟩) fun _ => h3 y hy
  | queued h0 hcol hwin =>
    refine .of_same _ s.inflight (pubDone_low s _ _).same .nil rfl h0 hq2 hcol fun hI hi =>
      (pubDone_low s _ _).sinv ⟨fun x hx => ?_, List.pairwise_append.mpr ⟨hi.q1, List.pairwise_singleton _ _, ?_⟩, fun _ => ?_⟩
    · rcases List.mem_append.mp hx with hx | hx
      · exact hi.msg x hx
      · cases List.mem_singleton.mp hx
        exact pubMsg_ok hI h0 retain nofun hv
    · intro a _ b hb _
      cases List.mem_singleton.mp hb
      exact ⟨nofun, nofun⟩
    · rw [not_or] at hwin
      exact ⟨by have := hwin.1; show s.cfg.maxInflight > 0; omega,
        by have := hwin.2; show s.inflight + 0 ≥ (s.cfg.maxInflight : Int); omega⟩

end publish

/-- case analysis of a step: publish / final acknowledgement of a stored message on an open socket / other -/
inductive StepCase (s : S) (op : Op) : Prop where
  | pub (q : Nat) (t p : Bytes) (r : Bool) (h : op = .publish q t p r) (hs : PubSpec s (s.step op) q)
  | ack (mid : Nat) (m : OutMsg) (c : Nat) (h : op.isFinalAck mid = true) (hs : s.sock = some c)
      (hf : s.out.find? (·.mid = mid) = some m) (ha : AckStep s mid m (s.step op))
  | other (hna : ∀ mid, op.isFinalAck mid = true → s.sock = none ∨ s.out.find? (·.mid = mid) = none)
      (s0 : S) (hm : midStep s s0) (hq : SameQ s0 (s.step op))

theorem stepCase (s : S) (op : Op) : StepCase s op := by
  have stay : ∀ {op}, (∀ mid, op.isFinalAck mid = true → s.sock = none ∨ s.out.find? (·.mid = mid) = none) →
      SameQ s (s.step op) → StepCase s op := fun hna h => .other hna s (Or.inl rfl) h
  have moved : ∀ {op}, (∀ mid, op.isFinalAck mid = false) → (∃ s0, midStep s s0 ∧ Low [] s0 (s.step op)) →
      StepCase s op := fun hna ⟨s0, h1, h2⟩ => .other (fun mid h => nomatch (hna mid).symm.trans h) s0 h1 h2.toQuiet
  cases op with
  | publish q t p r => exact .pub q t p r rfl (publish_spec s q t p r)
  | rx item ok =>
    by_cases hfin : ∃ mid c m, (Op.rx item ok).isFinalAck mid = true ∧ s.sock = some c ∧
        s.out.find? (·.mid = mid) = some m
    · obtain ⟨mid, c, m, h, hs, hf⟩ := hfin
      exact .ack mid m c h hs hf (step_ack s _ h hs hf)
    · have hna : ∀ mid, (Op.rx item ok).isFinalAck mid = true → s.sock = none ∨ s.out.find? (·.mid = mid) = none :=
        fun mid h => by
          rcases hs : s.sock with _ | c
          · exact Or.inl rfl
          · rcases hf : s.out.find? (·.mid = mid) with _ | m
            · exact Or.inr hf
            · exact absurd ⟨mid, c, m, h, hs, hf⟩ hfin
      exact stay hna ((loopRead_other s item ok hna).trans_nil (Low.emit_hres ..).sameW)
  | connect ok => exact stay nofun (((connect_sameW s ok).trans_nil (Low.emit_hres ..).sameW).toQuiet 0)
  | reconnect ok => exact stay nofun (((reconnect_sameW s ok).trans_nil (Low.emit_hres ..).sameW).toQuiet 0)
  | connectAsync => exact stay nofun (connectAsync_low s).toQuiet
  | subscribe t q => exact moved (fun _ => rfl) (subscribe_low s t q)
  | unsubscribe t => exact moved (fun _ => rfl) (unsubscribe_low s t)
  | disconnect => exact stay nofun (disconnect_low s).toQuiet
  | loopWrite => exact stay nofun ((loopWrite_low s).trans (Low.emit_ng _ _ rfl)).toQuiet
  | loopMisc => exact stay nofun ((loopMisc_low s).trans (Low.emit_ng _ _ rfl)).toQuiet
  | tick _ | send _ | raiseOnMessage _ => exact stay nofun (Low.upd : Low [] s _).toQuiet
  | ack m q => exact stay nofun (ack_low s m q).toQuiet

theorem Inv.step {s : S} (hi : Inv s) (op : Op) : Inv (s.step op) := by
  rcases stepCase s op with ⟨_, _, _, _, _, hs⟩ | ⟨_, _, _, _, _, hf, ⟨g, hsame, hq⟩, _⟩ | ⟨_, s0, hm, g, hsame, hq⟩
  · exact hs.inv hi
  · exact (hi.ack_state hf).same hsame hq.1
  · exact (hi.mid_step hm).same hsame.same hq.1

theorem Inv.run {s : S} (hi : Inv s) (ops : List Op) : Inv (s.run ops) := run_ind (fun _ op h => h.step op) ops hi

theorem Inv.reach (cfg : Cfg) (proto : Nat) (ops : List Op) : Inv (runFrom cfg proto ops) :=
  (Inv.init cfg proto t0).run ops

theorem SInv.step {s : S} (hi : Inv s) (h : SInv s) (op : Op) : SInv (s.step op) := by
  cases stepCase s op with
  | pub _ _ _ _ _ hs => exact hs.sinv hi h
  | ack _ _ _ _ hs _ ha => exact ha.2 h (by rw [hs]; rfl)
  | other _ s0 hm hq =>
    obtain ⟨_, hsame, _⟩ := hq
    refine hsame.sinv ?_
    rcases hm with rfl | rfl
    · exact h
    · exact h.of_eq

theorem SInv.reach (cfg : Cfg) (proto : Nat) (ops : List Op) : SInv (runFrom cfg proto ops) :=
  (run_ind (P := fun s => Inv s ∧ SInv s) (fun _ op h => ⟨h.1.step op, h.2.step h.1 op⟩) ops
    ⟨Inv.init cfg proto t0, SInv.init cfg proto t0⟩).2

end Paho.OutLemmas
