/-
For C17: the code's repeatable properties and forbidden values against the specification's.
-/
import PahoProofs.Lemmas.PropsTable

namespace Paho.PropsLemmas
open Paho Paho.Spec

theorem allowsMultiple_iff (i : Nat) : Props.allowsMultiple i = true ↔ i ∈ Spec.repeatable := by
  simp [Props.allowsMultiple, Gen.propMultiIds, Spec.repeatable]

theorem forbidden_of_range {name : String} {n : Int} {names : List String} {lo hi : Int}
    (hr : (names, lo, hi) ∈ Gen.propRangeRules) (hn : name ∈ names) (h : n < lo ∨ n > hi) :
    Props.valueForbidden name (.int n) = true := by
  refine Bool.or_eq_true_iff.mpr (.inl (List.any_eq_true.mpr ⟨_, hr, ?_⟩))
  simpa [hn] using h

theorem forbidden_of_enum {name : String} {n : Int} {names : List String} {vals : List Int}
    (hr : (names, vals) ∈ Gen.propEnumRules) (hn : name ∈ names) (h : n ∉ vals) :
    Props.valueForbidden name (.int n) = true := by
  refine Bool.or_eq_true_iff.mpr (.inr (List.any_eq_true.mpr ⟨_, hr, ?_⟩))
  simpa [hn] using h

end Paho.PropsLemmas
