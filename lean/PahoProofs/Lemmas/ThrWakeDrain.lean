/-
C07, section B: progress of the writer (`c07_drains`). From every live state the writer alone can bring every queued
byte onto the wire: finish the packet in hand, get to where `_packet_write` may run (`select false true` from `armed`,
`next` from `misc`; `top`, `woke`, `writing` already are), then pop/send until the queue is empty. That covers the
states without a wake-up pipe (no loop_start() yet), where `_loop` itself cannot run.
-/
import PahoProofs.Lemmas.ThrWake
namespace Paho.Thr
open Paho

/-- queued and in-hand packets are incomplete: kept as long as no empty packet is appended -/
def PosLt (s : WakeSys) : Prop := (∀ p ∈ s.queue, p.pos < p.len) ∧ (∀ p, s.hand = some p → p.pos < p.len)

variable {s : WakeSys}

theorem poslt_step {s' : WakeSys} {t : Tid} {a : WAct} (ha : ∀ id, a ≠ .append id 0) (hi : PosLt s)
    (h : s.Moves t a s') : PosLt s' := by
  obtain ⟨hq, hh⟩ := hi
  have app : ∀ id len, a = .append id len → ∀ p ∈ s.queue ++ [{ id := id, len := len }], p.pos < p.len := by
    intro id len e p hp
    rcases List.mem_append.1 hp with hp | hp
    · exact hq p hp
    · rw [List.mem_singleton.1 hp]
      exact Nat.pos_of_ne_zero fun (h0 : len = 0) => ha id (by rw [e, h0])
  cases h with
  | appendNoPipe id len | append id len => exact ⟨app id len rfl, hh⟩
  | pop p rest _ _ hqq =>
    rw [hqq] at hq
    exact ⟨fun x hx => hq x (List.mem_cons_of_mem _ hx), fun x hx => Option.some.inj hx ▸ hq p List.mem_cons_self⟩
  | send p n hp _ hle =>
    refine ⟨hq, fun x hx => ?_⟩
    split at hx
    · cases hx
    · rename_i hne
      cases hx
      show p.pos + n < p.len
      omega
  | pushback p hp =>
    refine ⟨fun x hx => ?_, fun _ hx => (nomatch hx)⟩
    rcases List.mem_cons.1 hx with hx | hx
    · exact hx ▸ hh p hp
    · exact hq x hx
  | clear => exact ⟨fun _ hx => (nomatch hx), hh⟩
  | _ => exact ⟨hq, hh⟩

/-- actions of the writer alone empty the queue and its hand; nothing new is queued meanwhile -/
def Drained (s : WakeSys) : Prop :=
  ∃ acts : List WAct, let s' := s.run (acts.map fun a => (s.loopTid, a))
    s'.queue = [] ∧ s'.handBytes = [] ∧ s'.all = s.all

theorem Drained.done (hq : s.queue = []) (hh : s.handBytes = []) : Drained s :=
  ⟨[], by simp [WakeSys.run, hq, hh]⟩

theorem Drained.step {s1 : WakeSys} (a : WAct) (h : s.step s.loopTid a = some s1) (ht : s1.loopTid = s.loopTid)
    (hall : s1.all = s.all) (hd : Drained s1) : Drained s := by
  obtain ⟨acts, hacts⟩ := hd
  refine ⟨a :: acts, ?_⟩
  simp only [List.map_cons, WakeSys.run, h, Option.getD_some]
  rw [ht, hall] at hacts
  exact hacts

theorem Drained.send_rest {p : Pkt} (hh : s.hand = some p) (hp : p.pos < p.len)
    (hd : Drained { s with hand := none, wire := s.wire ++ p.rest.take (p.len - p.pos) }) : Drained s := by
  refine Drained.step (s1 := { s with hand := none, wire := s.wire ++ p.rest.take (p.len - p.pos) })
    (.send (p.len - p.pos)) ?_ rfl rfl hd
  have h1 : 0 < p.len - p.pos := by omega
  have h2 : p.pos + (p.len - p.pos) = p.len := by omega
  simp [WakeSys.step, hh, h1, h2]

theorem drained_may {q : List Pkt} : ∀ s : WakeSys, s.lpc.mayWrite = true → s.hand = none → s.queue = q →
    (∀ p ∈ q, p.pos < p.len) → Drained s := by
  induction q with
  | nil =>
    intro s _ hh hq _
    exact Drained.done hq (by simp [WakeSys.handBytes, hh])
  | cons p rest ih =>
    intro s hl hh hq hpos
    refine Drained.step (s1 := { s with queue := rest, hand := some p }) .pop (by simp [WakeSys.step, hl, hh, hq]) rfl rfl ?_
    exact Drained.send_rest rfl (hpos p List.mem_cons_self)
      (ih _ hl rfl rfl fun x hx => hpos x (List.mem_cons_of_mem _ hx))

theorem drained_nohand (s : WakeSys) (hl : s.lpc ≠ .dead) (hh : s.hand = none) (hq : ∀ p ∈ s.queue, p.pos < p.len) : Drained s := by
  cases h : s.lpc with
  | armed w =>
    refine Drained.step (s1 := { s with lpc := .woke (decide (s.pipe > 0)) w, stalls := _ }) (.select false true)
      (by simp [WakeSys.step, h]; rfl) rfl rfl ?_
    exact drained_may _ (by simp [LPc.mayWrite]) hh rfl hq
  | misc =>
    refine Drained.step (s1 := { s with lpc := .top }) .next (by simp [WakeSys.step, h]) rfl rfl ?_
    exact drained_may _ (by simp [LPc.mayWrite]) hh rfl hq
  | dead => exact absurd h hl
  | _ => exact drained_may s (by rw [h]; rfl) hh rfl hq

theorem drained_live (s : WakeSys) (hl : s.lpc ≠ .dead) (hpos : PosLt s) : Drained s := by
  cases hh : s.hand with
  | none => exact drained_nohand s hl hh hpos.1
  | some p => exact Drained.send_rest hh (hpos.2 p hh) (drained_nohand _ hl rfl hpos.1)

end Paho.Thr
