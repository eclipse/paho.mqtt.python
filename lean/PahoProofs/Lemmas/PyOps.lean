/-
The Python operators of Paho/Model/Py.lean (`|`, `&`, `<<`, `>>`, `bytes([k])`) on the non-negative values that occur, and
the base-128 digit step the two translated encoders share; for the `Fn*` files.
-/
import Paho.Model.Py
import PahoProofs.Lemmas.PropsVbi

namespace Paho.FnEq
open Paho

theorem bor_nat (a b : Nat) : Py.bor (a : Int) (b : Int) = .ok ((a ||| b : Nat) : Int) := by
  simp [Py.bor]

theorem band_nat (a b : Nat) : Py.band (a : Int) (b : Int) = .ok ((a &&& b : Nat) : Int) := by
  simp [Py.band]

theorem byteOf_nat (k : Nat) (h : k < 256) : Py.byteOf (k : Int) = .ok (b8 k) := by
  have : (k : Int) < 256 := by omega
  simp [Py.byteOf, this, b8]

theorem shl_nat (a k : Nat) : Py.shl (a : Int) k = .ok ((a <<< k : Nat) : Int) := by
  simp [Py.shl, Nat.shiftLeft_eq]

theorem shr_nat (a k : Nat) : Py.shr (a : Int) k = .ok ((a >>> k : Nat) : Int) := by
  unfold Py.shr
  rw [if_pos (Int.natCast_nonneg a), Nat.shiftRight_eq_div_pow]
  congr 1

/-! ### one digit of the two encoders (`% 128`, `// 128`, `> 0`, `| 0x80`, one byte appended), on a natural number -/

theorem digit_cast (n : Nat) :
    (n : Int) % 128 = ((n % 128 : Nat) : Int) ∧ (n : Int) / 128 = ((n / 128 : Nat) : Int) :=
  ⟨by omega, by omega⟩

theorem more_cast (k : Nat) : decide ((k : Int) > 0) = decide (k > 0) ∧ ((k : Int) == 0) = !decide (k > 0) := by
  rcases Nat.eq_zero_or_pos k with rfl | h
  · exact ⟨rfl, rfl⟩
  · rw [decide_eq_true h, decide_eq_true (show (k : Int) > 0 by omega), beq_false_of_ne (show (k : Int) ≠ 0 by omega)]
    exact ⟨rfl, rfl⟩

theorem bor128_mod (n : Nat) : Py.bor ((n % 128 : Nat) : Int) 128 = .ok ((n % 128 + 128 : Nat) : Int) :=
  (bor_nat (n % 128) 128).trans (by rw [PropsLemmas.lor128 _ (Nat.mod_lt _ (by decide))])

theorem byteOf_low (n : Nat) : Py.byteOf ((n % 128 : Nat) : Int) = .ok (b8 (n % 128)) :=
  byteOf_nat _ (by omega)

theorem byteOf_high (n : Nat) : Py.byteOf ((n % 128 + 128 : Nat) : Int) = .ok (b8 (n % 128 + 128)) :=
  byteOf_nat _ (by omega)

end Paho.FnEq
