/- What the atomic actions of `SessionAct.lean` append to the log, and the connection numbers it mentions. -/
import PahoProofs.Lemmas.SessionAct

namespace Paho
namespace SessAct

variable {v v' : View}

theorem Path.preserves {I : View → Prop} {P : Kind → Bool} (hI : ∀ {k a b}, Act k a b → I a → I b)
    (h : Path P v v') (hi : I v) : I v' := by
  induction h with
  | refl _ => exact hi
  | cons ha _ _ ih => exact ih (hI ha hi)

theorem vSockClose_none (hs : v.sock = none) (r : Bool) : vSockClose v r = v := by
  simp [vSockClose, hs]

theorem vSockClose_some {c : Nat} (hc : v.sock = some c) (r : Bool) :
    vSockClose v r = { v with sock := none, ackd := false, discCalled := false, regWrite := false,
                              log := v.log ++ closeEvs v c r } := by
  simp [vSockClose, hc]

theorem vSockClose_sock (v : View) (r : Bool) : (vSockClose v r).sock = none := by
  unfold vSockClose
  split <;> trivial

/-- at most one of `vRegW`, `vUnregW` changes anything, and then in the same way up to `b` -/
theorem reg_cases {P : View → Prop} (same : P v)
    (flip : ∀ c b, v.sock = some c → v.regWrite = !b →
      P { v with regWrite := b, log := v.log ++ (if v.ext then [cond b (Ev.skRegW c) (Ev.skUnregW c)] else []) }) :
    P (vRegW v) ∧ P (vUnregW v) := by
  unfold vRegW vUnregW
  split
  · exact ⟨same, same⟩
  · next c hc =>
    cases hr : v.regWrite with
    | false => exact ⟨flip c true hc hr, same⟩
    | true => exact ⟨same, flip c false hc hr⟩

theorem mem_regEvs {p : Prop} [Decidable p] {c : Nat} {b : Bool} {x : Ev}
    (hx : x ∈ (if p then [cond b (Ev.skRegW c) (Ev.skUnregW c)] else [])) :
    x = Ev.skRegW c ∨ x = Ev.skUnregW c := by
  rw [List.mem_ite_nil_right, List.mem_singleton] at hx
  rw [hx.2]
  cases b
  · exact .inr rfl
  · exact .inl rfl

theorem vEnq_log {c : Nat} (hc : v.sock = some c) (pkt : OutPkt) :
    (vEnq v pkt).log = v.log ++ [Ev.queued c pkt.bytes] := by
  simp only [vEnq, hc]

theorem vEnq_none (hc : v.sock = none) (pkt : OutPkt) : vEnq v pkt = { v with outq := (vEnq v pkt).outq } := by
  simp only [vEnq, hc, List.append_nil]

theorem vWrite_log {c : Nat} (hc : v.sock = some c) (pkt : OutPkt) (rest : List OutPkt) (k : Nat) :
    (vWrite v pkt rest k).log = v.log ++ [Ev.tx c ((pkt.bytes.drop pkt.pos).take k)] := by
  simp only [vWrite, hc]

theorem vWrite_none (hc : v.sock = none) (pkt : OutPkt) (rest : List OutPkt) (k : Nat) :
    vWrite v pkt rest k = { v with outq := (vWrite v pkt rest k).outq } := by
  simp only [vWrite, hc, List.append_nil]

/-- a socket callback `x` is logged only when the callbacks are installed (`ext`), and as a deadlock from inside a callback -/
theorem mem_callback {ext inCb : Bool} {x e : Ev}
    (h : e ∈ (if ext then [if inCb then Ev.deadlock "_in_callback_mutex" else x] else [])) :
    e = Ev.deadlock "_in_callback_mutex" ∨ e = x := by
  rw [List.mem_ite_nil_right, List.mem_singleton] at h
  rw [h.2]
  split
  · exact .inl rfl
  · exact .inr rfl

theorem closeEvs_eq (v : View) (c : Nat) (r : Bool) : ∃ pre, closeEvs v c r = pre ++ [Ev.sclose c r] ∧
    ∀ e ∈ pre, e = Ev.skUnregW c ∨ e = Ev.deadlock "_in_callback_mutex" ∨ e = Ev.skClose c := by
  refine ⟨_, rfl, fun e h => ?_⟩
  rcases List.mem_append.1 h with h | h
  · rw [List.mem_ite_nil_right, List.mem_singleton] at h
    exact .inl h.2
  · exact .inr (mem_callback h)

theorem mem_closeEvs {c : Nat} {r : Bool} {e : Ev} (h : e ∈ closeEvs v c r) :
    e = Ev.skUnregW c ∨ e = Ev.deadlock "_in_callback_mutex" ∨ e = Ev.skClose c ∨ e = Ev.sclose c r := by
  obtain ⟨pre, hpre, hp⟩ := closeEvs_eq v c r
  rw [hpre, List.mem_append, List.mem_singleton] at h
  rcases h with h | h
  · exact (hp e h).imp_right (.imp_right .inl)
  · exact .inr (.inr (.inr h))

theorem closeEvs_evConn {c : Nat} {r : Bool} {e : Ev} (h : e ∈ closeEvs v c r) : evConn e ≤ c := by
  rcases mem_closeEvs h with rfl | rfl | rfl | rfl
  · exact Nat.le_refl c
  · exact Nat.zero_le c
  · exact Nat.le_refl c
  · exact Nat.le_refl c

/-- spelt inline in `vOpen`; named because every invariant looks inside it -/
def openEvs (v : View) (pkt : Option OutPkt) : List Ev :=
  Ev.sopen (v.nconn + 1)
    :: ((if v.ext then [if v.inCb then Ev.deadlock "_in_callback_mutex" else Ev.skOpen (v.nconn + 1)] else [])
      ++ [match pkt with | some p => Ev.queued (v.nconn + 1) p.bytes | none => Ev.exc "encode"])

theorem vOpen_log (v : View) (pkt : Option OutPkt) : (vOpen v pkt).log = v.log ++ openEvs v pkt := by
  cases pkt <;> simp [vOpen, openEvs]

theorem mem_openEvs {pkt : Option OutPkt} {e : Ev} (h : e ∈ openEvs v pkt) :
    e = Ev.sopen (v.nconn + 1) ∨ e = Ev.deadlock "_in_callback_mutex" ∨ e = Ev.skOpen (v.nconn + 1) ∨
      (∃ p, pkt = some p ∧ e = Ev.queued (v.nconn + 1) p.bytes) ∨ e = Ev.exc "encode" := by
  simp only [openEvs, List.mem_cons, List.mem_append, List.not_mem_nil, or_false] at h
  rcases h with h | h | h
  · exact .inl h
  · exact .inr ((mem_callback h).imp_right .inl)
  · cases pkt with
    | none => exact .inr (.inr (.inr (.inr h)))
    | some p => exact .inr (.inr (.inr (.inl ⟨p, rfl, h⟩)))

theorem openEvs_evConn {pkt : Option OutPkt} {e : Ev} (h : e ∈ openEvs v pkt) :
    evConn e ≤ v.nconn + 1 := by
  rcases mem_openEvs h with rfl | rfl | rfl | ⟨p, _, rfl⟩ | rfl
  · exact Nat.le_refl _
  · exact Nat.zero_le _
  · exact Nat.le_refl _
  · exact Nat.le_refl _
  · exact Nat.zero_le _

theorem evle_append {l evs : List Ev} {n m : Nat} (h : ∀ e ∈ l, evConn e ≤ n) (hnm : n ≤ m)
    (he : ∀ e ∈ evs, evConn e ≤ m) : ∀ e ∈ l ++ evs, evConn e ≤ m := by
  intro e hm
  rcases List.mem_append.1 hm with hm | hm
  · exact Nat.le_trans (h e hm) hnm
  · exact he e hm

theorem neutral_evConn {e : Ev} (h : neutral e = true) : evConn e = 0 := by
  cases e <;> first | rfl | cases h

end SessAct
end Paho
