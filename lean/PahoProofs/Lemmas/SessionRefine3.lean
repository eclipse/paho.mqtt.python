/- The connect()/reconnect() family, the CONNACK and DISCONNECT handlers, loop_read and `step`. -/
import PahoProofs.Lemmas.SessionRefine2
namespace Paho
namespace SessAct
open S

theorem failQueuedQos0_view (l : List OutPkt) : ∀ (s : S), ∃ evs, (∀ e ∈ evs, neutral e = true) ∧
    view (s.failQueuedQos0 l) = vEmit (view s) evs := by
  induction l with
  | nil => exact fun s => ⟨[], List.forall_mem_nil _, (vEmit_nil _).symm⟩
  | cons p rest ih =>
    intro s
    unfold failQueuedQos0
    extract_lets s1
    have h1 : ∃ e1, (∀ e ∈ e1, neutral e = true) ∧ view s1 = vEmit (view s) e1 := by
      unfold s1
      split
      · split
        · exact ⟨[_], List.forall_mem_singleton.mpr rfl, rfl⟩
        · exact ⟨[], List.forall_mem_nil _, (vEmit_nil _).symm⟩
      · exact ⟨[], List.forall_mem_nil _, (vEmit_nil _).symm⟩
    obtain ⟨e1, hn1, hv1⟩ := h1
    obtain ⟨evs, hn, hv⟩ := ih s1
    exact ⟨e1 ++ evs, List.forall_mem_append.mpr ⟨hn1, hn⟩, by rw [hv, hv1, vEmit_vEmit]⟩

theorem view_resetIn (s : S) : view s.messagesReconnectResetIn = view s := by
  unfold messagesReconnectResetIn; split <;> rfl

/-- between the creation of the socket and `_send_connect`: `vOpen` without its last event, which depends on
whether CONNECT can be encoded -/
def vSockOpen (v : View) : View :=
  vEmit { v with sock := some (v.nconn + 1), nconn := v.nconn + 1, regWrite := false }
    ([.sopen (v.nconn + 1)] ++
      (if v.ext then [if v.inCb then .deadlock "_in_callback_mutex" else .skOpen (v.nconn + 1)] else []))

theorem vOpen_none {v : View} (h : v.outq = []) : vOpen v none = vEmit (vSockOpen v) [.exc "encode"] := by
  simp only [vOpen, vSockOpen, vEmit, h, List.append_assoc, Option.toList]

theorem vOpen_some {v : View} (h : v.outq = []) (p : OutPkt) : vOpen v (some p) = vEnq (vSockOpen v) p := by
  simp only [vOpen, vSockOpen, vEmit, vEnq, h, List.append_assoc, Option.toList, List.nil_append]

/-- `_send_connect` on the socket that `reconnect()` has just created (`t`) from a state without one (`s`) -/
theorem sendConnect_open {s t : S} (hsock : s.sock = none) (hq : s.outq = []) (hcs : s.cstate = .connecting)
    (hC : view t = vSockOpen (view s)) (hss : t.sendScript = []) :
    TrQ (view s) (view t.sendConnect.1) ∧ t.sendConnect.2 = rcSuccess := by
  unfold sendConnect
  extract_lets a
  cases henc : encConnect a with
  | error e =>
    have hok : (view s).cfgOk = false := (congrArg View.cfgOk hC).symm.trans (encConnect_err (s := t) henc)
    refine ⟨Path.of_eq_act (Act.openNoConnect (view s) hsock hq hcs hok) rfl ?_, rfl⟩
    show view (t.emit _) = _
    rw [view_emit, hC, vOpen_none hq]
  | ok bytes =>
    dsimp -zeta only
    rw [packetQueue_eq]
    have hpk : IsConnectPkt (mkPkt 0x10 0 0 bytes) := ⟨rfl, rfl, encConnect_ok_head (s := t) henc⟩
    generalize mkPkt 0x10 0 0 bytes = pkt at hpk ⊢
    have hE : view (enqS t pkt) = vOpen (view s) (some pkt) := by rw [view_enqS, hC, vOpen_some hq]
    have h1 : TrQ (view s) (view (enqS t pkt)) :=
      Path.of_eq_act (Act.openConnect (view s) _ hsock hq hcs hpk) rfl hE
    have hus : (enqS t pkt).sendScript = [] := by unfold enqS; split <;> exact hss
    generalize enqS t pkt = u at hE h1 hus ⊢
    split
    · have h2 := loopWrite_quiet u (show (view u).sock.isSome = true by rw [hE]; rfl) hus
        (show ∀ p ∈ (view u).outq, _ by
          rw [hE]; exact fun p hp => List.mem_singleton.mp hp ▸ hpk.2.1 ▸ (by decide : ¬ isDiscCmd 0x10))
      exact ⟨h1.trans h2.1.toQ, h2.2⟩
    · exact ⟨h1.trans (view_regW u ▸ Path.single (Act.regW _) rfl), rfl⟩

/-- the two facts about the result make a CONNACK handler that reconnects a `QuietRes` (`handleConnack_tr`) -/
theorem reconnect_tr (s : S) (ok : Bool) : TrQ (view s) (view (s.reconnect ok).1) ∧
    (∀ rc, (s.reconnect ok).2 = .rc rc → rc = rcSuccess) ∧
    ((s.reconnect ok).2 = .raised "ConnectionRefusedError" → (s.reconnect ok).1.sock = none) := by
  unfold reconnect
  cases s.hostSet with
  | false => exact ⟨Path.refl _, nofun, fun h => absurd (HRes.raised.inj h) (by decide)⟩
  | true =>
    rw [if_neg (by decide)]
    extract_lets s1 s2 s3 s4 s5 s6 c s7 s8 s9
    -- up to `on_pre_connect`: old connection closed (`v`), queued QoS 0 messages failed, queue cleared
    obtain ⟨v, ha, hsock, hcs, h2⟩ : ∃ v, Act .reconn (view s) v ∧ v.sock = none ∧ v.cstate = .connecting ∧
        view s2 = v :=
      ⟨_, Act.closeReplace (view s) .connecting (Or.inl rfl), vSockClose_sock .., vSockClose_cstate ..,
        view_sockClose s1 true⟩
    obtain ⟨evs, hn, h3⟩ := failQueuedQos0_view s2.outq s2
    have h6 : view s6 = vEmit { vEmit v evs with outq := [] } [.onPreConnect] := by
      unfold s6 s5
      rw [view_emit, view_resetIn]
      show vEmit { view s3 with outq := [] } _ = _
      unfold s3
      rw [h3, h2]
    clear_value s6
    have hp : TrQ (view s) (view s6) := by
      rw [h6]
      refine (Path.single ha rfl).trans ?_
      refine (Path.single (Act.emit _ evs hn) rfl).trans ?_
      refine (Path.single (Act.clearQ (vEmit _ evs) hsock) rfl).trans ?_
      exact Path.single (Act.emit _ [.onPreConnect] (List.forall_mem_singleton.mpr rfl)) rfl
    replace hsock : s6.sock = none := (congrArg View.sock h6).trans hsock
    cases ok with
    | false => exact ⟨hp, nofun, fun _ => hsock⟩
    | true =>
      rw [if_neg (by decide)]
      have h9 : view s9 = vSockOpen (view s6) := by
        unfold s9
        rw [view_sockCb]
        show vEmit (vEmit (view s7) [.sopen c]) _ = _
        rw [vEmit_vEmit]; rfl
      have hss : s9.sendScript = [] := by
        unfold s9
        split
        · split <;> rfl
        · rfl
      clear_value s9
      have h2 := sendConnect_open hsock (congrArg View.outq h6) ((congrArg View.cstate h6).trans hcs) h9 hss
      generalize s9.sendConnect = p at h2 ⊢
      exact ⟨hp.trans h2.1, fun rc h => (HRes.rc.inj h).symm.trans h2.2, nofun⟩

theorem vSockClose_set_cstate (v : View) (x : ConnState) (r : Bool) :
    { vSockClose v r with cstate := x } = vSockClose { v with cstate := x } r := by
  unfold vSockClose; dsimp only; split <;> rfl

theorem connectAsync_tr (s : S) : TrQ (view s) (view s.connectAsync) := by
  refine Path.of_eq_act (Act.closeReplace (view s) .connectAsync (Or.inr rfl)) rfl ?_
  show ({ view (s.sockClose true) with cstate := .connectAsync } : View) = _
  rw [view_sockClose, vSockClose_set_cstate]; rfl

theorem connect_tr (s : S) (ok : Bool) : TrQ (view s) (view (s.connect ok).1) := by
  unfold connect
  extract_lets s1
  have hv : view s1 = view s := by
    unfold s1
    split <;> rfl
  exact hv ▸ (connectAsync_tr s1).trans (reconnect_tr s1.connectAsync ok).1

theorem handleDisconnect_tr (s : S) (reason : Option Nat) (hs : s.sock.isSome = true) :
    TrN (view s) (view (s.handleDisconnect reason).1) := by
  unfold handleDisconnect
  extract_lets bad s1 s2 s3
  clear_value bad
  cases bad with
  | some r => exact Path.refl _
  | none =>
    refine Path.of_eq_act (Act.closeBroker (view s) (reason.getD 0) hs) rfl ?_
    show view (S.emit (ite _ _ _) _) = _
    rw [ite_cstate, sockClose_dod, view_closeAs]
    rfl

/-- the result cannot make `loop_read` close the connection: no error code, or the socket is already gone
(F25: the in-handler reconnect failed and was reported as `rcConnLost`) -/
def QuietRes (p : S × HRes) : Prop := ∀ rc, p.2 = .rc rc → rc > 0 → p.1.sock = none

theorem handleConnack_tr (s : S) (sp : Bool) (result : Nat) (ok : Bool) (hs : s.sock.isSome = true) :
    TrN (view s) (view (s.handleConnack sp result ok).1) ∨
    (TrQ (view s) (view (s.handleConnack sp result ok).1) ∧ QuietRes (s.handleConnack sp result ok)) := by
  unfold handleConnack
  extract_lets pre s1 s2 shown s3
  clear_value pre
  cases pre with
  | some r => exact .inl (Path.refl _)
  | none =>
    dsimp -zeta only
    by_cases h1 : s.proto = 4 ∧ result = 1
    · rw [if_pos h1]
      by_cases h2 : (!s.cfg.rof) = true
      · rw [if_pos h2]; exact .inl (Path.refl _)
      rw [if_neg h2]
      right
      have h := reconnect_tr s1 ok
      split
      · rename_i s' heq
        rw [heq] at h
        exact ⟨h.1.trans (emit_tr _), fun _ _ _ => h.2.2 rfl⟩
      · exact ⟨h.1, fun rc hrc hpos => absurd (h.2.1 rc hrc ▸ hpos) (by decide)⟩
    · rw [if_neg h1]
      left
      have h3 : TrN (view s) (view s3) := by
        by_cases h0 : result = 0
        · exact (Path.single (Act.connack (view s) hs) rfl).trans
            (emit_tr s2 (hv := by unfold s2; rw [if_pos h0]))
        · exact emit_tr s2 (hv := by unfold s2; rw [if_neg h0])
      clear_value s3
      exact Path.ite_fst (h3.trans (connackResend_tr ..))
        (Path.ite_fst h3 h3)

theorem packetHandle_tr (s : S) (p : RxPkt) (ok : Bool) (hs : s.sock.isSome = true) :
    TrN (view s) (view (s.packetHandle p ok).1) ∨
    (TrQ (view s) (view (s.packetHandle p ok).1) ∧ QuietRes (s.packetHandle p ok)) := by
  cases p with
  | connack sp rc => exact handleConnack_tr s sp rc ok hs
  | publish m => exact .inl (handlePublish_tr s m)
  | puback mid | pubcomp mid => exact .inl (handlePubackcomp_tr s mid)
  | pubrec mid => exact .inl (handlePubrec_tr s mid)
  | pubrel mid => exact .inl (handlePubrel_tr s mid)
  | suback mid code => exact .inl (emit_tr s)
  | unsuback mid => exact .inl (emit_tr s)
  | pingreq => exact .inl (sendSimple_tr s 0xD0)
  | disconnect r => exact .inl (Path.ite_fst (handleDisconnect_tr s r hs) (Path.refl _))
  | pingresp | badcmd | malformed => exact .inl (Path.refl _)

theorem loopRcHandle_noSock (s : S) (rc : RC) (h : s.sock = none) : (s.loopRcHandle rc).1 = s := by
  unfold loopRcHandle
  by_cases h0 : rc ≠ 0
  · rw [if_pos h0, h]; rfl
  · rw [if_neg h0]

theorem loopRead_tr (s : S) (item : RxItem) (ok : Bool) :
    TrN (view s) (view (s.loopRead item ok).1) ∨ TrQ (view s) (view (s.loopRead item ok).1) := by
  unfold loopRead
  cases hc : s.sock with
  | none => exact .inl (Path.refl _)
  | some c =>
    cases item with
    | none => exact .inl (Path.refl _)
    | eof | err => exact .inl (loopRcHandle_tr s rcConnLost (by decide))
    | pkt p =>
      dsimp -zeta only
      have h := packetHandle_tr s p ok (congrArg Option.isSome hc)
      generalize s.packetHandle p ok = q at h ⊢
      rcases q with ⟨s1, rc | n⟩
      · dsimp -zeta only
        extract_lets s2
        have h' : TrN (view s) (view s2) ∨ TrQ (view s) (view s2) := h.imp id And.left
        by_cases hpos : rc > 0
        · rw [if_pos hpos]
          rcases h with h | h
          · exact .inl (h.trans (loopRcHandle_tr s2 rc hpos))
          · exact .inr (by rw [loopRcHandle_noSock s2 rc (h.2 rc rfl hpos)]; exact h.1)
        · rw [if_neg hpos]
          split
          · exact h'
          · split <;> exact h'
      · exact h.imp id And.left

theorem neutral_hresEv (r : HRes) : neutral (hresEv r) = true := by cases r <;> rfl

theorem step_tr (s : S) (op : Op) :
    ((TrN (view s) (view (s.step op)) ∨ TrQ (view s) (view (s.step op))) ∧ (op = .disconnect → s.sock = none)) ∨
    (op = .disconnect ∧ ∃ v1, Act .disc (view s) v1 ∧ TrN v1 (view (s.step op))) := by
  by_cases hd : op = .disconnect
  · subst hd
    rcases disconnect_tr s with h | h
    · exact .inl ⟨.inl h.2, fun _ => h.1⟩
    · exact .inr ⟨rfl, h⟩
  refine .inl ⟨?_, fun e => absurd e hd⟩
  cases op with
  | disconnect => exact absurd rfl hd
  | connect ok => exact .inr ((connect_tr s ok).trans (emit_tr _ (neutral_hresEv _)))
  | reconnect ok => exact .inr ((reconnect_tr s ok).1.trans (emit_tr _ (neutral_hresEv _)))
  | connectAsync => exact .inr (connectAsync_tr s)
  | rx item ok =>
    exact (loopRead_tr s item ok).imp (·.trans (emit_tr _ (neutral_hresEv _)))
      (·.trans (emit_tr _ (neutral_hresEv _)))
  | publish q t p r => exact .inl (publish_tr s q t p r)
  | subscribe t q => exact .inl (subscribe_tr s t q)
  | unsubscribe t => exact .inl (unsubscribe_tr s t)
  | loopWrite => exact .inl ((loopWrite_tr s).trans (emit_tr _))
  | loopMisc => exact .inl ((loopMisc_tr s).trans (emit_tr _))
  | ack m q => exact .inl (ack_tr s m q)
  | tick _ | send _ | raiseOnMessage _ => exact .inl (Path.refl _)

end SessAct
end Paho
