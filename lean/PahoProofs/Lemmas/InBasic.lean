/-
The frame of the C03 proofs through the low-level routines of the session model: `Fr (PB B k)` keeps `inm` and
`out` and lets the log grow by events whose queued packets satisfy `B`. Not a `SessFrame.Frame`: `SessFrame.Upd`
does not fix `inm`, and the event classes there admit every `queued` event whatever its bytes, while C03 is about
those bytes. So the routines are walked here once more, with `B` handed down to `_packet_queue`.
-/
import PahoProofs.Lemmas.SessionFrame
namespace Paho.InLemmas
open Paho Paho.S
open Paho.SessFrame (ite_state ite_fst)

def PB (B : Bytes → Prop) (k : Prop) : Ev → Prop
  | .queued _ b => B b
  | .onMessage _ => k
  | _ => True

def Lg (P : Ev → Prop) (s s' : S) : Prop := ∃ evs, s'.log = s.log ++ evs ∧ ∀ e ∈ evs, P e

variable {P : Ev → Prop} {a b c b' : S} {e : Ev}

theorem Lg.refl : Lg P a a := ⟨[], by simp, by simp⟩

theorem Lg.trans (h1 : Lg P a b) (h2 : Lg P b c) : Lg P a c := by
  obtain ⟨e1, h1, p1⟩ := h1
  obtain ⟨e2, h2, p2⟩ := h2
  exact ⟨e1 ++ e2, by rw [h2, h1, List.append_assoc], List.forall_mem_append.mpr ⟨p1, p2⟩⟩

theorem Lg.emit (h : Lg P a b) (he : P e) : Lg P a (b.emit e) :=
  Lg.trans h ⟨[e], rfl, List.forall_mem_singleton.mpr he⟩

theorem Lg.upd (h : Lg P a b) (hl : b'.log = b.log) : Lg P a b' :=
  Lg.trans h ⟨[], by simp [hl], by simp⟩

theorem Lg.mono {P' : Ev → Prop} (hPP : ∀ e, P e → P' e) (h : Lg P a b) : Lg P' a b :=
  h.imp fun _ h => ⟨h.1, fun e he => hPP e (h.2 e he)⟩

structure Fr (P : Ev → Prop) (s s' : S) : Prop where
  inm : s'.inm = s.inm
  out : s'.out = s.out
  lg : Lg P s s'

theorem Fr.refl : Fr P a a := ⟨rfl, rfl, Lg.refl⟩

theorem Fr.trans (h1 : Fr P a b) (h2 : Fr P b c) : Fr P a c :=
  ⟨h2.inm.trans h1.inm, h2.out.trans h1.out, h1.lg.trans h2.lg⟩

theorem Fr.emit (h : Fr P a b) (he : P e) : Fr P a (b.emit e) :=
  ⟨h.inm, h.out, h.lg.emit he⟩

theorem Fr.upd (h : Fr P a b) (h1 : b'.inm = b.inm) (h2 : b'.out = b.out) (h3 : b'.log = b.log) :
    Fr P a b' :=
  ⟨h1.trans h.inm, h2.trans h.out, h.lg.upd h3⟩

/-- a fact about the state a routine returns, read off at the names a `let (s, r) := ..` gives its result -/
theorem of_eq {R : S → S → Prop} {α : Type} {f : S × α} {s1 : S} {r : α} (heq : f = (s1, r)) (h : R a f.1) :
    R a s1 := by
  subst heq; exact h

variable {B : Bytes → Prop} {k : Prop} {s0 s : S}

section walks
/-! Each routine keeps the frame `h` reached before it; its arguments are read off the goal. -/
variable {o info uid : Option Nat} {r fb direct retain dup : Bool} {x : ConnState} {rc : RC}
  {fuel command mid qos : Nat} {topic payload : Bytes} {pkt : OutPkt} {m : InMsg} (h : Fr (PB B k) s0 s)
include h

theorem callSocketRegisterWrite_fr : Fr (PB B k) s0 s.callSocketRegisterWrite := by
  unfold callSocketRegisterWrite
  split
  · exact h
  · exact ite_state h (ite_state (Fr.emit (Fr.upd h rfl rfl rfl) trivial) (Fr.upd h rfl rfl rfl))

theorem callSocketUnregisterWrite_fr : Fr (PB B k) s0 (s.callSocketUnregisterWrite o) := by
  unfold callSocketUnregisterWrite
  split
  · exact h
  · exact ite_state h (ite_state (Fr.emit (Fr.upd h rfl rfl rfl) trivial) (Fr.upd h rfl rfl rfl))

theorem sockClose_fr : Fr (PB B k) s0 (s.sockClose r) := by
  unfold sockClose
  split
  · exact h
  · extract_lets s1 s2
    have h2 : Fr (PB B k) s0 s2 := callSocketUnregisterWrite_fr (Fr.upd h rfl rfl rfl)
    exact Fr.emit (ite_state (ite_state (Fr.emit h2 trivial) (Fr.emit h2 trivial)) h2) trivial

theorem closeWith_fr :
    Fr (PB B k) s0 (({ s.sockClose r with cstate := x } : S).doOnDisconnect rc fb) :=
  Fr.emit (Fr.upd (sockClose_fr h) rfl rfl rfl) trivial

theorem loopRcHandle_fr : Fr (PB B k) s0 (s.loopRcHandle rc).1 :=
  ite_fst (ite_fst h (ite_fst (closeWith_fr h) (closeWith_fr h))) h

theorem setInfo_fr {i : Nat} {f : Info → Info} : Fr (PB B k) s0 (s.setInfo i f) := h.upd rfl rfl rfl

theorem packetWrite_fr : Fr (PB B k) s0 (packetWrite fuel s).1 := by
  induction fuel generalizing s with
  | zero => exact h.emit trivial
  | succ n ih =>
    unfold packetWrite
    split
    · exact h
    · extract_lets s1 data
      split
      rename_i s2 d hd
      have h2 : Fr (PB B k) s0 s2 := of_eq hd (by
        unfold nextSend
        split
        · exact Fr.upd h rfl rfl rfl
        · exact Fr.upd h rfl rfl rfl)
      split
      · exact Fr.upd (callSocketRegisterWrite_fr h2) rfl rfl rfl
      · exact Fr.upd h2 rfl rfl rfl
      · extract_lets k' s3 pkt' s4 s5 s6 s7 s8 s9
        have h3 : Fr (PB B k) s0 s3 := by
          unfold s3
          split
          · exact h2.emit trivial
          · exact h2
        have h4 : Fr (PB B k) s0 s4 := h3.emit trivial
        have h5 : Fr (PB B k) s0 s5 := by
          refine ite_state ?_ h3
          split
          · exact Fr.emit (setInfo_fr h4) trivial
          · exact h4.emit trivial
        have h7 : Fr (PB B k) s0 s7 := sockClose_fr (Fr.upd h5 rfl rfl rfl)
        have h9 : Fr (PB B k) s0 s9 := Fr.emit (ite_state (Fr.upd h7 rfl rfl rfl) h7) trivial
        exact ite_fst (ite_fst (ite_fst h9 (ih h5)) (ih (Fr.upd h3 rfl rfl rfl))) (Fr.upd h2 rfl rfl rfl)

theorem loopWrite_fr : Fr (PB B k) s0 s.loopWrite.1 := by
  unfold loopWrite
  split
  · exact h
  · have h1 := packetWrite_fr h (fuel := s.writeFuel)
    refine ite_state (callSocketRegisterWrite_fr ?h2) (callSocketUnregisterWrite_fr ?h2)
    exact ite_fst h1 (ite_fst (loopRcHandle_fr h1) h1)

theorem packetQueue_fr (hb : B pkt.bytes) :
    Fr (PB B k) s0 (s.packetQueue pkt direct).1 := by
  unfold packetQueue
  extract_lets s1 s2
  have h2 : Fr (PB B k) s0 s2 := by
    unfold s2
    split
    · exact Fr.emit (Fr.upd h rfl rfl rfl) hb
    · exact Fr.upd h rfl rfl rfl
  exact ite_fst (loopWrite_fr h2) (callSocketRegisterWrite_fr h2)

theorem sendPublish_fr
    (hb : ∀ bytes, encPublish s.proto mid topic payload qos retain dup none = .ok bytes → B bytes) :
    Fr (PB B k) s0 (s.sendPublish mid topic payload qos retain dup info direct uid).1 := by
  unfold sendPublish
  split
  · exact h
  · split
    · exact h.emit trivial
    · refine packetQueue_fr ?_ (hb _ ‹_›)
      split
      · exact h.emit trivial
      · exact h

theorem sendCmdMid_fr
    (hb : ∀ bytes, encCmdMid command mid false = .ok bytes → B bytes) :
    Fr (PB B k) s0 (s.sendCmdMid command mid direct).1 := by
  unfold sendCmdMid
  split
  · exact h.emit trivial
  · exact packetQueue_fr h (hb _ ‹_›)

theorem sendPubrel_fr
    (hb : ∀ bytes, encCmdMid 0x62 mid false = .ok bytes → B bytes) :
    Fr (PB B k) s0 (s.sendPubrel mid direct).1 := by
  unfold sendPubrel
  refine sendCmdMid_fr ?_ hb
  split
  · exact h.emit trivial
  · exact h

theorem sendConnect_fr (hb : ∀ a bytes, a.will = none → a.username = none → encConnect a = .ok bytes → B bytes) :
    Fr (PB B k) s0 s.sendConnect.1 := by
  unfold sendConnect
  extract_lets a
  split
  · exact h.emit trivial
  · exact packetQueue_fr h (hb _ _ rfl rfl ‹_›)

theorem handleOnMessage_fr (hk : k) : Fr (PB B k) s0 (s.handleOnMessage m).1 :=
  have h1 : Fr (PB B k) s0 (s.emit (.onMessage m)) := h.emit hk
  ite_fst (Fr.upd h1 rfl rfl rfl) h1

end walks

theorem packetQueue_first (pkt : OutPkt) (direct : Bool) {c : Nat} (hs : s.sock = some c) :
    ∃ evs, (s.packetQueue pkt direct).1.log = s.log ++ Ev.queued c pkt.bytes :: evs ∧ ∀ e ∈ evs, PB B k e := by
  unfold packetQueue
  extract_lets s1 s2
  have h2 : s2 = s1.emit (.queued c pkt.bytes) := by
    unfold s2
    rw [show s1.sock = some c from hs]
  obtain ⟨evs, he, hp⟩ := (ite_fst (loopWrite_fr Fr.refl) (callSocketRegisterWrite_fr Fr.refl) :
    Fr (PB B k) s2 (if (!s2.cfg.ext) = true ∧ direct = true ∧ (!s2.inCb) = true then s2.loopWrite
      else (s2.callSocketRegisterWrite, rcSuccess)).1).lg
  refine ⟨evs, ?_, hp⟩
  rw [he, h2]
  exact List.append_assoc s.log [_] evs

theorem packetQueue_inm (pkt : OutPkt) (direct : Bool) : (s.packetQueue pkt direct).1.inm = s.inm :=
  (packetQueue_fr (B := fun _ => True) (k := True) Fr.refl trivial).inm

end Paho.InLemmas
