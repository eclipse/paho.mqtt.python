/-
The packet handlers, `loop_misc()` and the application calls other than connect()/reconnect() as paths of the
atomic actions. Each proof walks its handler keeping the path from the initial view to the view of the state
reached; `let`s are taken out one at a time and their values forgotten (`clear_value`) once that is recorded, so
the goal never holds a state written out in full.
-/
import PahoProofs.Lemmas.SessionRefine
namespace Paho
namespace SessAct
open S

theorem updateInflight_tr (s : S) (fuel idx : Nat) : TrN (view s) (view (s.updateInflight fuel idx).1) := by
  induction fuel generalizing s idx with
  | zero => exact Path.refl _
  | succ fuel ih =>
    unfold updateInflight
    cases s.out[idx]? with
    | none => exact Path.refl _
    | some m =>
      dsimp -zeta only
      refine Path.ite_fst (Path.refl _) ?_
      refine Path.ite_fst ?_ (Path.refl _)
      refine Path.ite_fst ?_ (ih _ _)
      extract_lets m' s1
      have h := sendPublish_tr s1 m.mid m.topic m.payload m.qos m.retain m.dup none true (some m.info)
      generalize sendPublish _ _ _ _ _ _ _ _ _ _ = p at h ⊢
      exact Path.ite_fst h (h.trans (ih _ _))

theorem doOnPublish_tr (s : S) (mid : Nat) : TrN (view s) (view (s.doOnPublish mid).1) := by
  unfold doOnPublish
  extract_lets s0
  have h : TrN (view s) (view s0) := emit_tr s
  clear_value s0
  cases List.find? _ s0.out with
  | none => exact h.trans (emit_tr _)
  | some m =>
    dsimp -zeta only
    extract_lets s1 s2 s3 s4
    replace h : TrN (view s) (view s1) := h.trans (emit_tr s0)
    replace h : TrN (view s) (view s3) := h.trans (emit_tr (setInfo s2 _ _))
    have h' : TrN (view s) (view s4) := h
    clear_value s4 s3
    refine Path.ite_fst ?_ h
    refine Path.ite_fst ?_ h'
    replace h' := h'.trans (updateInflight_tr s4 (s4.out.length + 1) 0)
    generalize updateInflight _ _ _ = p at h' ⊢
    exact Path.ite_fst h' h'

theorem handlePubackcomp_tr (s : S) (mid : Nat) : TrN (view s) (view (s.handlePubackcomp mid).1) :=
  Path.ite_fst (doOnPublish_tr s mid) (Path.refl _)

theorem handlePubrec_tr (s : S) (mid : Nat) : TrN (view s) (view (s.handlePubrec mid).1) := by
  refine Path.ite_fst ?_ (Path.refl _)
  extract_lets s1
  exact sendPubrel_tr s1 mid true

theorem handleOnMessage_tr (s : S) (m : InMsg) : TrN (view s) (view (s.handleOnMessage m).1) :=
  Path.ite_fst (emit_tr s) (emit_tr s)

theorem handlePublish_tr (s : S) (m : InMsg) : TrN (view s) (view (s.handlePublish m).1) := by
  unfold handlePublish
  extract_lets m'
  refine Path.ite_fst (Path.refl _) ?_
  have hm := handleOnMessage_tr s m'
  generalize s.handleOnMessage m' = p at hm ⊢
  refine Path.ite_fst (Path.ite_fst hm hm) ?_
  refine Path.ite_fst ?_ ?_
  · exact Path.ite_fst hm (Path.ite_fst hm (hm.trans (sendPuback_tr p.1 m'.mid)))
  · refine Path.ite_fst ?_ (Path.refl _)
    have h := sendPubrec_tr s m'.mid
    generalize sendPubrec _ _ = q at h ⊢
    exact h

theorem handlePubrel_tr (s : S) (mid : Nat) : TrN (view s) (view (s.handlePubrel mid).1) := by
  unfold handlePubrel
  -- after `on_message`, if any
  have h3 : ∀ (p : S × Bool), TrN (view s) (view p.1) → TrN (view s) (view (
      match p with
      | (s1, raised) =>
        if raised = true then (s1, HRes.raised "RuntimeError")
        else if s1.cfg.manualAck = true then (s1, HRes.rc rcSuccess)
        else match s1.sendPubcomp mid with | (s, rc) => (s, HRes.rc rc)).1) := by
    intro ⟨s1, r⟩ h
    exact Path.ite_fst h (Path.ite_fst h (h.trans (sendPubcomp_tr s1 mid)))
  cases List.find? (fun x => decide (x.mid = mid)) s.inm with
  | none => exact h3 (s, false) (Path.refl _)
  | some m =>
    dsimp -zeta only
    extract_lets s1
    exact h3 (s1.handleOnMessage m) (handleOnMessage_tr s1 m)

theorem connackResend_tr (s : S) (fuel idx : Nat) (rc : RC) : TrN (view s) (view (s.connackResend fuel idx rc).1) := by
  induction fuel generalizing s idx rc with
  | zero => exact Path.refl _
  | succ fuel ih =>
    unfold connackResend
    cases s.out[idx]? with
    | none => exact Path.refl _
    | some m =>
      dsimp -zeta only
      refine Path.ite_fst (Path.refl _) ?_
      refine Path.ite_fst (loopWrite_tr s) ?_
      generalize hp : (ite (m.qos = 1 ∧ m.state = MS.publish) _ _ : S × RC × Bool) = p
      have h : TrN (view s) (view p.1) := by
        rw [← hp]
        refine Path.ite_fst ?_ ?_
        · extract_lets s1; exact sendPublish_tr s1 ..
        refine Path.ite_fst ?_ ?_
        · extract_lets s1; exact sendPublish_tr s1 ..
        refine Path.ite_fst ?_ (Path.refl _)
        extract_lets s1; exact sendPubrel_tr s1 ..
      clear hp
      -- stop, or `loop_write` and go on
      exact Path.ite_fst h ((h.trans (loopWrite_tr _)).trans (ih _ _ _))

theorem checkKeepalive_tr (s : S) : TrN (view s) (view s.checkKeepalive) := by
  unfold checkKeepalive
  extract_lets k s1
  refine Path.ite (Path.refl _) ?_
  cases hc : s.sock with
  | none => exact Path.refl _
  | some c =>
    have hs : s.sock.isSome = true := congrArg Option.isSome hc
    dsimp -zeta only
    refine Path.ite ?_ (Path.refl _)
    refine Path.ite ?_ ?_
    · have h := sendSimple_tr s 0xC0
      generalize s.sendSimple 0xC0 = p at h ⊢
      exact Path.ite h h
    · have hl := closeLost_tr hs (rc := rcKeepalive) (by decide)
      by_cases hd : s1.disconnectingOrDone = true
      · rw [if_pos hd]; exact hl.1 hd
      · rw [if_neg hd]; exact hl.2 hd

theorem loopMisc_tr (s : S) : TrN (view s) (view s.loopMisc.1) := by
  unfold loopMisc
  cases s.sock with
  | none => exact Path.refl _
  | some c =>
    dsimp -zeta only
    extract_lets t t1
    have h1 : TrN (view s) (view t) := checkKeepalive_tr s
    clear_value t
    cases hc : t.sock with
    | none => exact h1
    | some c2 =>
      have hs : t.sock.isSome = true := congrArg Option.isSome hc
      dsimp -zeta only
      refine Path.ite_fst (h1.trans ?_) h1
      have hl := closeLost_tr hs (rc := rcKeepalive) (by decide)
      by_cases hd : t1.disconnectingOrDone = true
      · rw [if_pos hd]; exact hl.1 hd
      · rw [if_neg hd]; exact hl.2 hd

theorem publish_tr (s : S) (qos : Nat) (topic payload : Bytes) (retain : Bool) :
    TrN (view s) (view (s.publish qos topic payload retain)) := by
  unfold publish
  split
  · exact emit_tr _
  · exact emit_tr _
  · extract_lets mid s1 infoIdx s2 m m' s3 s4
    refine Path.ite ?_ ?_
    · have h := sendPublish_tr s2 mid topic payload 0 retain false (some infoIdx) true (some infoIdx)
      generalize sendPublish _ _ _ _ _ _ _ _ _ _ = p at h ⊢
      exact h.trans (emit_tr (setInfo _ _ _))
    refine Path.ite (emit_tr (setInfo _ _ _)) ?_
    refine Path.ite (emit_tr (setInfo _ _ _)) ?_
    refine Path.ite ?_ (emit_tr (setInfo _ _ _))
    have h := sendPublish_tr s3 mid topic payload qos retain false (some infoIdx) true (some infoIdx)
    generalize sendPublish _ _ _ _ _ _ _ _ _ _ = p at h ⊢
    rcases p with ⟨s5, rc⟩
    dsimp -zeta only
    extract_lets s6
    have hv : view s6 = view s5 := by unfold s6; split <;> rfl
    exact h.trans (emit_tr (setInfo _ _ _) (hv := hv))

theorem subscribe_tr (s : S) (topic : Bytes) (qos : Nat) : TrN (view s) (view (s.subscribe topic qos)) := by
  unfold subscribe
  refine Path.ite (emit_tr _) ?_
  refine Path.ite (emit_tr _) ?_
  refine Path.ite (emit_tr _) ?_
  split
  · exact emit_tr _
  · extract_lets mid s1
    cases henc : encSubscribe s1.proto mid [(topic, qos)] none with
    | error e => exact emit_tr _
    | ok bytes =>
      dsimp -zeta only
      exact (packetQueue_tr s1 (command := 0x82) true (InLemmas.encSubscribe_head henc) (by decide) (.inl (by decide))).trans
        (emit_tr _)

theorem unsubscribe_tr (s : S) (topic : Bytes) : TrN (view s) (view (s.unsubscribe topic)) := by
  unfold unsubscribe
  refine Path.ite (emit_tr _) ?_
  split
  · exact emit_tr _
  · extract_lets mid s1
    cases henc : encUnsubscribe s1.proto mid [topic] none with
    | error e => exact emit_tr _
    | ok bytes =>
      dsimp -zeta only
      exact (packetQueue_tr s1 (command := 0xA2) true (InLemmas.encUnsubscribe_head henc) (by decide) (.inl (by decide))).trans
        (emit_tr _)

theorem ack_tr (s : S) (mid qos : Nat) : TrN (view s) (view (s.ack mid qos)) := by
  unfold ack
  dsimp -zeta only
  refine Path.ite ?_ (emit_tr _)
  refine Path.ite ?_ (Path.ite ?_ (emit_tr _))
  · exact (sendPuback_tr s mid).trans (emit_tr _)
  · exact (sendPubcomp_tr s mid).trans (emit_tr _)

theorem disconnect_tr (s : S) :
    (s.sock = none ∧ TrN (view s) (view s.disconnect)) ∨
    (∃ v1, Act .disc (view s) v1 ∧ TrN v1 (view s.disconnect)) := by
  unfold disconnect
  split
  · rename_i hc
    exact .inl ⟨hc, (Path.single (Act.setNoSock (view s) .disconnected hc (by decide)) rfl).trans
      (emit_tr _)⟩
  · rename_i c hc
    refine .inr ⟨_, Act.setDisc (view s) (congrArg Option.isSome hc), ?_⟩
    extract_lets s1
    cases henc : encDisconnect s1.proto none none with
    | error e => exact emit_tr s1
    | ok bytes =>
      dsimp -zeta only
      exact (packetQueue_tr s1 true (InLemmas.encDisconnect_head henc) (by decide) (.inr rfl)).trans (emit_tr _)

end SessAct
end Paho
