/-
The read chain of one `_recv_impl` call against a known frame: `readHeader` recovers the header fields of the frame
at the front of the byte stream (or stops short of the header), `readPayload` delivers the right payload slice.
-/
import PahoProofs.Lemmas.WsRecvDefs
namespace Paho.Ws
open Paho

theorem Ok.stream_len {c c' : Cur} (h : Ok c c') : c'.head ≤ c.stream.length := by
  have h1 := h.headLe
  have h2 : c'.buf.length ≤ c'.stream.length := by simp [Cur.stream]
  rw [h.stream] at h2
  omega

/-! ### slices of an encoded frame -/

theorem drop_two_add {α : Type} (a b : α) (l : List α) (n : Nat) : (a :: b :: l).drop (2 + n) = l.drop n := by
  rw [Nat.add_comm]; rfl

variable (f : Frame) (R : Bytes)

theorem enc_slice0 : ((f.enc ++ R).drop 0).take 1 = [f.b0] := by simp [Frame.enc]

theorem enc_slice1 : ((f.enc ++ R).drop 1).take 1 = [f.b1] := by simp [Frame.enc]

theorem enc_slice_ext : ((f.enc ++ R).drop 2).take f.ext.length = f.ext := by
  simp [Frame.enc]

theorem enc_slice_key : ((f.enc ++ R).drop (2 + f.ext.length)).take f.keyBytes.length = f.keyBytes := by
  have : (f.enc ++ R).drop (2 + f.ext.length) = f.keyBytes ++ (f.body ++ R) := by
    simp only [Frame.enc, List.cons_append, List.append_assoc]
    rw [drop_two_add, List.drop_left' rfl]
  rw [this]; simp

theorem enc_drop_hdr : (f.enc ++ R).drop f.hdrLen = f.body ++ R := by
  simp only [Frame.enc, Frame.hdrLen, List.cons_append, List.append_assoc]
  rw [Nat.add_assoc, drop_two_add, ← List.append_assoc, List.drop_left' (by simp)]

theorem enc_slice_body {r : Nat} (hr : r ≤ f.payload.length) :
    ((f.enc ++ R).drop f.hdrLen).take r = f.body.take r := by
  rw [enc_drop_hdr, List.take_append_of_le_length (by rw [Frame.body_length]; exact hr)]

/-! ### `readLen`, `readKey`, `readHeader` -/

theorem Spec.ok_intro {α : Type} {a : α} {c : Cur} {T : Nat} {post : α → Cur → Prop}
    (hh : c.head ≤ c.buf.length) (hp : post a c) : Spec (Step.ok a c) c T post :=
  ⟨Ok.refl c hh, hp⟩

/-- one `_buffered_read(k)` of a call whose byte stream is a prefix of `E`: either it gives up short of `head + k`, or
the rest of the chain runs on the `k` bytes of `E` at `head` -/
theorem Spec.read {β : Type} {E : Bytes} {k T : Nat} {c : Cur} {g : Bytes → Cur → Step β} {post : β → Cur → Prop}
    (hh : c.head ≤ c.buf.length) (hp : c.stream <+: E) (hT : c.head + k ≤ T)
    (hg : ∀ c', Ok c c' → c'.head = c.head + k → c'.stream <+: E → Spec (g ((E.drop c.head).take k) c') c' T post) :
    Spec ((bufferedRead k c).bind g) c T post := by
  refine Spec.bind ((bufferedRead_spec k c hh).mono hT (fun _ _ _ h => h)) ?_
  intro v c' hok hv
  have hlen : c.head + k ≤ c.stream.length := by have := hok.stream_len; omega
  have hE := hg c' hok hv.1 (hok.stream ▸ hp)
  obtain ⟨t, rfl⟩ := hp
  rwa [slice_append hlen, ← hv.2] at hE

theorem readLen_spec {f : Frame} (hwf : f.wf) (c : Cur) (hh : c.head ≤ c.buf.length) (h2 : c.head = 2)
    (hp : c.stream <+: f.enc ++ R) :
    Spec (readLen f.len7 c) c (2 + f.ext.length)
      (fun plen c' => plen = f.payload.length ∧ c'.head = 2 + f.ext.length) := by
  -- the extended length field, `w` = 2 or 8 bytes
  have hext : ∀ w, f.ext = beBytes w f.payload.length → f.payload.length < 256 ^ w →
      Spec ((bufferedRead w c).bind fun v c => .ok (beNat v) c) c (2 + f.ext.length)
        (fun plen c' => plen = f.payload.length ∧ c'.head = 2 + f.ext.length) := by
    intro w he hlt
    have hel : f.ext.length = w := by rw [he, beBytes_length]
    refine Spec.read hh hp (Nat.le_of_eq (by rw [h2, hel])) fun c' hok hc' _ =>
      Spec.ok_intro hok.headLe ⟨?_, by rw [hc', h2, hel]⟩
    have := enc_slice_ext f R
    rw [hel] at this
    rw [h2, this, he, beNat_beBytes_of_lt hlt]
  unfold readLen
  rcases Frame.len_forms hwf with ⟨hl, he, hlt⟩ | ⟨hl, he, hlt⟩ | ⟨hl, he, hlt⟩
  · rw [hl, if_neg (Nat.ne_of_lt hlt), if_neg (Nat.ne_of_lt (Nat.lt_succ_of_lt hlt))]
    exact Spec.ok_intro hh ⟨rfl, by rw [h2, he]; rfl⟩
  · rw [hl, if_pos rfl]
    exact hext 2 he hlt
  · rw [hl, if_neg (by decide), if_pos rfl]
    exact hext 8 he hlt

theorem readKey_spec {f : Frame} (hwf : f.wf) (c : Cur) (hh : c.head ≤ c.buf.length) (h2 : c.head = 2 + f.ext.length)
    (hp : c.stream <+: f.enc ++ R) :
    Spec (readKey f.mask.isSome c) c f.hdrLen (fun key c' => key = f.mask ∧ c'.head = f.hdrLen) := by
  unfold readKey
  cases hm : f.mask with
  | none => exact Spec.ok_intro hh ⟨rfl, by simp [Frame.hdrLen, Frame.keyBytes, hm, h2]⟩
  | some k =>
    have hkb : f.keyBytes = k := by simp [Frame.keyBytes, hm]
    have hH : f.hdrLen = 2 + f.ext.length + 4 := by simp [Frame.hdrLen, hkb, hwf.1 k hm]
    rw [Option.isSome_some, if_pos rfl]
    refine Spec.read hh hp (Nat.le_of_eq (by rw [h2, hH])) fun c' hok hc' _ =>
      Spec.ok_intro hok.headLe ⟨?_, by rw [hc', h2, hH]⟩
    have := enc_slice_key f R
    rw [hkb, hwf.1 k hm] at this
    rw [h2, this]

theorem readHeader_spec {f : Frame} (hwf : f.wf) (c : Cur) (h0 : c.head = 0) (hp : c.stream <+: f.enc ++ R) :
    Spec (readHeader c) c f.hdrLen
      (fun h c' => h = { opcode := f.opcode, plen := f.payload.length, key := f.mask } ∧ c'.head = f.hdrLen) := by
  have hH : 2 ≤ f.hdrLen := Nat.le_trans (Nat.le_add_right 2 _) (Nat.le_add_right _ _)
  unfold readHeader
  refine Spec.read (h0 ▸ Nat.zero_le _) hp (by rw [h0]; exact Nat.le_of_succ_le hH) fun c1 ok1 hc1 hp1 => ?_
  refine Spec.read ok1.headLe hp1 (by rw [hc1, h0]; exact hH) fun c2 ok2 hc2 hp2 => ?_
  rw [h0, enc_slice0, hc1, h0, enc_slice1]
  simp only [List.headD_cons, and127_eq, maskbit_eq, and15_eq, Frame.b1_lengthbits hwf, Frame.b1_maskbit hwf]
  refine Spec.bind ((readLen_spec R hwf c2 ok2.headLe (by rw [hc2, hc1, h0]) hp2).mono (Nat.le_add_right _ _)
    (fun _ _ _ h => h)) ?_
  intro plen c3 ok3 hv3
  refine Spec.bind (readKey_spec R hwf c3 ok3.headLe hv3.2 (ok3.stream ▸ hp2)) ?_
  intro key c4 ok4 hv4
  refine Spec.ok_intro ok4.headLe ⟨?_, hv4.2⟩
  rw [hv3.1, hv4.1]; rfl

/-- unmasking only `[start, r)` of the first `r` transmitted bytes gives the right bytes there -/
theorem unmask_drop (k payload : Bytes) (start r : Nat) (hr : r ≤ payload.length) :
    (xorRange k start r ((xorRange k 0 payload.length payload).take r)).drop start = (payload.take r).drop start := by
  apply List.ext_getElem
  · rw [List.length_drop, List.length_drop, xorRange_length, List.length_take, List.length_take, xorRange_length]
  · intro i h1 h2
    have hi : start + i < r := by
      rw [List.length_drop, List.length_take] at h2; omega
    rw [List.getElem_drop, List.getElem_drop, xorRange_getElem, if_pos ⟨Nat.le_add_right _ _, hi⟩]
    rw [List.getElem_take, List.getElem_take, xorRange_getElem, if_pos ⟨Nat.zero_le _, Nat.lt_of_lt_of_le hi hr⟩, xor_cancel]

theorem take_drop_slice (l : Bytes) (s r : Nat) : ((l.take r).drop s).take (r - s) = (l.drop s).take (r - s) := by
  rw [List.drop_take, List.take_take, Nat.min_self]

theorem readPayload_spec {f : Frame} (c : Cur) (hh : c.head ≤ c.buf.length) (hH : c.head = f.hdrLen)
    (hp : c.stream <+: f.enc ++ R) (start r : Nat) (hr : r ≤ f.payload.length) :
    Spec (readPayload { opcode := f.opcode, plen := f.payload.length, key := f.mask } start r c) c (f.hdrLen + r)
      (fun x c' => x.2.1 = (f.payload.drop start).take (r - start) ∧ x.2.2 = (if r > 0 then r else start) ∧
        (f.mask = none → x.1 = f.payload.take r) ∧ c'.head = f.hdrLen + r) := by
  unfold readPayload
  by_cases h0 : r > 0
  · rw [if_pos h0]
    refine Spec.read hh hp (Nat.le_of_eq (by rw [hH])) fun c' hok hc _ => Spec.ok_intro hok.headLe ?_
    rw [hH, enc_slice_body f R hr, if_pos h0]
    unfold Frame.body
    cases f.mask with
    | none => exact ⟨take_drop_slice _ _ _, rfl, fun _ => rfl, by rw [hc, hH]⟩
    | some k =>
      refine ⟨?_, rfl, (fun h => by cases h), by rw [hc, hH]⟩
      show ((xorRange k start r _).drop start).take (r - start) = _
      rw [unmask_drop k f.payload start r hr, take_drop_slice]
  · have hr0 : r = 0 := by omega
    subst hr0
    rw [if_neg h0]
    exact Spec.ok_intro hh ⟨by simp, rfl, fun _ => by simp, by omega⟩

end Paho.Ws
