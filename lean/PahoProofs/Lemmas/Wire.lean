/-
The encoders of Paho/Model/{Bytes,Codec}.lean against the strict decoder of Paho/Spec/Wire.lean, for C04: an inversion
lemma per encoder (`enc…_inv`: header byte, remaining length, body, and the field bounds the packing functions enforced),
an equation per decoding step on `encoded ++ rest`, `decodeBody` on a whole CONNECT or DISCONNECT body.
-/
import Paho.Model.Codec
import Paho.Spec.Wire
import PahoProofs.Lemmas.PropsVbi

namespace Paho.WireLemmas
open Paho Paho.PropsLemmas
open Paho.Spec.Wire (vbiDecode u16 lp propsBlock optProps decode decodeBody subFilters unsubFilters)

theorem pure_ok {ε α : Type} {a b : α} : (pure a : Except ε α) = .ok b ↔ a = b :=
  ⟨Except.ok.inj, congrArg Except.ok⟩

/-- `do` elaborates `let x ← if c then … else …` with the rest of the block inside both branches -/
theorem ite_bind {ε α β : Type} {c : Prop} [Decidable c] (x y : Except ε α) (k : α → Except ε β) :
    (if c then x >>= k else y >>= k) = (if c then x else y) >>= k := by split <;> rfl

theorem vbiByte (a : Nat) (ha : a < 128) :
    (UInt8.ofNat a).toNat = a ∧ ¬ (UInt8.ofNat (a + 128)).toNat < 128 ∧ (UInt8.ofNat (a + 128)).toNat - 128 = a := by
  rw [ofNat_toNat a (Nat.lt_trans ha (by decide)), ofNat_toNat (a + 128) (Nat.add_lt_add_right ha 128)]
  exact ⟨rfl, Nat.not_lt.mpr (Nat.le_add_left _ _), Nat.add_sub_cancel ..⟩

theorem vbiDecode_vbi (n : Nat) (h : n ≤ 268435455) (tl : Bytes) :
    vbiDecode (Spec.vbi n ++ tl) = some (n, tl) := by
  have m : ∀ k, k % 128 < 128 := fun k => Nat.mod_lt k (by decide)
  have nz : ∀ {k j : Nat}, ¬ k < j → 0 < j → k / j ≠ 0 := fun hk hj =>
    Nat.div_ne_zero_iff.mpr ⟨Nat.ne_of_gt hj, Nat.le_of_not_lt hk⟩
  -- the decoder's digit sum, nested the way `Nat.mod_add_div` folds it up
  have d3 (a b c : Nat) : a + 128 * b + 16384 * c = a + 128 * (b + 128 * c) := by
    simp only [Nat.mul_add, ← Nat.mul_assoc, ← Nat.add_assoc, Nat.reduceMul]
  have d4 (a b c d : Nat) : a + 128 * b + 16384 * c + 2097152 * d = a + 128 * (b + 128 * (c + 128 * d)) := by
    simp only [Nat.mul_add, ← Nat.mul_assoc, ← Nat.add_assoc, Nat.reduceMul]
  have e2 : n / 16384 = n / 128 / 128 := (Nat.div_div_eq_div_mul n 128 128).symm
  have e3 : n / 2097152 = n / 128 / 128 / 128 := by rw [← e2, Nat.div_div_eq_div_mul]
  -- in each range the decoder stops at the last byte of `Spec.vbi`: below 128 and not 0
  rw [Spec.vbi]
  by_cases h1 : n < 128
  · rw [if_pos h1]
    simp only [List.cons_append, List.nil_append, vbiDecode, vbiByte n h1, h1, if_true]
  rw [if_neg h1]
  by_cases h2 : n < 16384
  · have hl : n / 128 < 128 := Nat.div_lt_of_lt_mul h2
    rw [if_pos h2]
    simp only [List.cons_append, List.nil_append, vbiDecode, vbiByte _ (m n), vbiByte _ hl, hl,
      nz h1 (by decide), if_true, if_false, Nat.mod_add_div]
  rw [if_neg h2]
  by_cases h3 : n < 2097152
  · have hl : n / 16384 < 128 := Nat.div_lt_of_lt_mul h3
    rw [if_pos h3]
    simp only [List.cons_append, List.nil_append, vbiDecode, vbiByte _ (m n), vbiByte _ (m (n / 128)), vbiByte _ hl, hl,
      nz h2 (by decide), if_true, if_false]
    rw [d3, e2, Nat.mod_add_div, Nat.mod_add_div]
  · have hl : n / 2097152 < 128 := Nat.div_lt_of_lt_mul (Nat.lt_succ_of_le h)
    rw [if_neg h3]
    simp only [List.cons_append, List.nil_append, vbiDecode, vbiByte _ (m n), vbiByte _ (m (n / 128)),
      vbiByte _ (m (n / 16384)), vbiByte _ hl, hl, nz h3 (by decide), if_true, if_false]
    rw [d4, e2, e3, Nat.mod_add_div, Nat.mod_add_div, Nat.mod_add_div]

/-- `struct.pack("!H", k)`; the same list as `Spec.u16be k` -/
def u16b (k : Nat) : Bytes := [b8 (k / 256), b8 (k % 256)]

theorem u16b_length (k : Nat) : (u16b k).length = 2 := rfl

theorem u16_u16b (k : Nat) (h : k ≤ 65535) (tl : Bytes) : u16 (u16b k ++ tl) = some (k, tl) := by
  show some (_, tl) = _
  rw [b8_toNat _ (Nat.div_lt_of_lt_mul (Nat.lt_succ_of_le h)), b8_toNat _ (Nat.mod_lt _ (by decide)),
    Nat.div_add_mod']

theorem packU16_inv {n : Int} {x : Bytes} (h : packU16 n = .ok x) : (0 ≤ n ∧ n ≤ 65535) ∧ x = u16b n.toNat :=
  ite_ok h

theorem packU16_nat_inv {n : Nat} {x : Bytes} (h : packU16 (n : Int) = .ok x) : n ≤ 65535 ∧ x = u16b n :=
  ⟨Int.ofNat_le.mp (packU16_inv h).1.2, (packU16_inv h).2⟩

theorem str16_inv {b x : Bytes} (h : str16 b = .ok x) : b.length ≤ 65535 ∧ x = u16b b.length ++ b :=
  ite_ok ((str16_eq b).symm.trans h)

theorem take_append_left (a b : List UInt8) : (a ++ b).take a.length = a := by simp
theorem drop_append_left (a b : List UInt8) : (a ++ b).drop a.length = b := by simp

theorem lp_field (b tl : Bytes) (h : b.length ≤ 65535) : lp (u16b b.length ++ (b ++ tl)) = some (b, tl) := by
  simp only [lp, u16_u16b _ h, List.length_append, Nat.le_add_right, if_true, take_append_left, drop_append_left]

theorem lp_field_end (b : Bytes) (h : b.length ≤ 65535) : lp (u16b b.length ++ b) = some (b, []) := by
  rw [← lp_field b [] h, List.append_nil]

theorem propsBlock_block (body tl : Bytes) (h : body.length ≤ 268435455) :
    propsBlock (Spec.vbi body.length ++ (body ++ tl)) = some (body, tl) := by
  simp only [propsBlock, vbiDecode_vbi _ h, List.length_append, Nat.le_add_right, if_true, take_append_left,
    drop_append_left]

theorem optProps_five (body tl : Bytes) (h : body.length ≤ 268435455) :
    optProps 5 (Spec.vbi body.length ++ (body ++ tl)) = some (some body, tl) := by
  simp only [optProps, propsBlock_block body tl h, if_true, Option.map]

theorem optProps_not_five (proto : Nat) (h : proto ≠ 5) (b : Bytes) : optProps proto b = some (none, b) :=
  if_neg h

theorem packProps_not_five {proto : Nat} {props : Option Props} {pp : Bytes}
    (h : packProps proto props = .ok pp) (h5 : proto ≠ 5) : pp = [] := by
  simp only [packProps, if_neg h5] at h
  cases h; rfl

def Framed (hd : Nat) (body bs : Bytes) : Prop :=
  body.length ≤ 268435455 ∧ bs = b8 hd :: (Spec.vbi body.length ++ body)

/-- what every encoder returns, once the length it announces is seen to be the body's -/
theorem framed_of_enc {hd rl : Nat} {rlb body : Bytes} (hrl : remLenEncChecked rl = .ok rlb) (hlen : body.length = rl) :
    Framed hd body ([b8 hd] ++ rlb ++ body) := by
  subst hlen
  obtain ⟨h1, rfl⟩ := ite_ok ((remLenEncChecked_eq _).symm.trans hrl)
  exact ⟨h1, rfl⟩

theorem decode_frame {hd : Nat} {body bs : Bytes} (h : Framed hd body bs) (proto : Nat) (tl : Bytes) :
    decode proto (bs ++ tl) =
      (decodeBody proto ((b8 hd).toNat / 16) ((b8 hd).toNat % 16) body).map fun p => (p, tl) := by
  rw [h.2]
  simp only [decode, List.cons_append, List.append_assoc, vbiDecode_vbi _ h.1, List.length_append, Nat.le_add_right,
    if_true, take_append_left, drop_append_left]

/-- first byte of PUBLISH as computed by `_send_publish` -/
def pubHdr (dup : Bool) (qos : Nat) (retain : Bool) : Nat :=
  0x30 ||| ((boolBit dup &&& 0x1) <<< 3) ||| (qos <<< 1) ||| boolBit retain

def pubBody (topic : Bytes) (mid qos : Nat) (pp payload : Bytes) : Bytes :=
  u16b topic.length ++ (topic ++ ((if qos > 0 then u16b mid else []) ++ (pp ++ payload)))

/-- what the strict decoder reads out of that byte; twelve bytes in all -/
theorem pubHdr_bits (dup : Bool) (qos : Nat) (retain : Bool) (hq : qos ≤ 2) :
    (b8 (pubHdr dup qos retain)).toNat / 16 = 3 ∧
    (b8 (pubHdr dup qos retain)).toNat % 16 / 2 % 4 = qos ∧
    (b8 (pubHdr dup qos retain)).toNat % 16 / 8 % 2 = boolBit dup ∧
    (b8 (pubHdr dup qos retain)).toNat % 16 % 2 = boolBit retain := by
  obtain rfl | rfl | rfl : qos = 0 ∨ qos = 1 ∨ qos = 2 := by omega
  all_goals cases dup <;> cases retain <;> decide

theorem boolBit_eq_one (b : Bool) : (boolBit b = 1) = (b = true) := by cases b <;> simp [boolBit]

theorem encPublish_inv {proto mid : Nat} {topic payload : Bytes} {qos : Nat} {retain dup : Bool}
    {props : Option Props} {bs : Bytes}
    (h : encPublish proto mid topic payload qos retain dup props = .ok bs) :
    ∃ pp, packProps proto props = .ok pp ∧ topic.length ≤ 65535 ∧ (qos > 0 → mid ≤ 65535) ∧
      Framed (pubHdr dup qos retain) (pubBody topic mid qos pp payload) bs := by
  simp only [encPublish, ite_bind, bind_ok, pure_ok] at h
  obtain ⟨pp, hpp, rlb, hrl, t, ht, m, hm, rfl⟩ := h
  obtain ⟨ht1, rfl⟩ := str16_inv ht
  have hm' : (qos > 0 → mid ≤ 65535) ∧ m = if qos > 0 then u16b mid else [] := by
    split at hm
    · obtain ⟨h1, rfl⟩ := packU16_nat_inv hm
      exact ⟨fun _ => h1, (if_pos ‹_›).symm⟩
    · cases hm
      exact ⟨fun hq => absurd hq ‹_›, (if_neg ‹_›).symm⟩
  obtain ⟨hm1, rfl⟩ := hm'
  have hlen : (pubBody topic mid qos pp payload).length
      = 2 + topic.length + payload.length + (if qos > 0 then 2 else 0) + pp.length := by
    simp only [pubBody, List.length_append, u16b_length, apply_ite List.length, List.length_nil]
    omega
  refine ⟨pp, hpp, ht1, hm1, ?_⟩
  simpa only [pubBody, pubHdr, List.append_assoc] using framed_of_enc (hd := pubHdr dup qos retain) hrl hlen

def subBody : List (Bytes × Nat) → Bytes
  | [] => []
  | (t, o) :: rest => u16b t.length ++ (t ++ (b8 o :: subBody rest))

def unsubBody : List Bytes → Bytes
  | [] => []
  | t :: rest => u16b t.length ++ (t ++ unsubBody rest)

theorem subBody_length (l : List (Bytes × Nat)) :
    (subBody l).length = (l.map (fun t => 2 + t.1.length + 1)).sum := by
  induction l with
  | nil => rfl
  | cons a rest ih =>
    simp only [subBody, List.length_append, List.length_cons, u16b_length, ih, List.map_cons, List.sum_cons]
    omega

theorem unsubBody_length (l : List Bytes) :
    (unsubBody l).length = (l.map (fun t => 2 + t.length)).sum := by
  induction l with
  | nil => rfl
  | cons t rest ih =>
    simp only [unsubBody, List.length_append, u16b_length, ih, List.map_cons, List.sum_cons]
    omega

theorem encSubEntries_inv {l : List (Bytes × Nat)} {x : Bytes} (h : encSubEntries l = .ok x) :
    x = subBody l ∧ ∀ p ∈ l, p.1.length ≤ 65535 ∧ p.2 ≤ 255 := by
  induction l generalizing x with
  | nil =>
    cases h
    exact ⟨rfl, nofun⟩
  | cons a rest ih =>
    obtain ⟨t, o⟩ := a
    simp only [encSubEntries, bind_ok] at h
    obtain ⟨tb, htb, r, hr, h⟩ := h
    obtain ⟨ht, rfl⟩ := str16_inv htb
    obtain ⟨rfl, hrest⟩ := ih hr
    split at h
    · cases h
    · cases h
      exact ⟨by simp only [subBody, List.append_assoc, List.cons_append, List.nil_append],
        List.forall_mem_cons.mpr ⟨⟨ht, Nat.le_of_not_lt ‹_›⟩, hrest⟩⟩

theorem encUnsubEntries_inv {l : List Bytes} {x : Bytes} (h : encUnsubEntries l = .ok x) :
    x = unsubBody l ∧ ∀ p ∈ l, p.length ≤ 65535 := by
  induction l generalizing x with
  | nil =>
    cases h
    exact ⟨rfl, nofun⟩
  | cons t rest ih =>
    simp only [encUnsubEntries, bind_ok, pure_ok] at h
    obtain ⟨tb, htb, r, hr, rfl⟩ := h
    obtain ⟨ht, rfl⟩ := str16_inv htb
    obtain ⟨rfl, hrest⟩ := ih hr
    exact ⟨by simp only [unsubBody, List.append_assoc], List.forall_mem_cons.mpr ⟨ht, hrest⟩⟩

theorem subFilters_subBody (l : List (Bytes × Nat)) (hl : ∀ p ∈ l, p.1.length ≤ 65535 ∧ p.2 ≤ 255)
    (fuel : Nat) (hf : (subBody l).length ≤ fuel) : subFilters fuel (subBody l) = some l := by
  induction l generalizing fuel with
  | nil => rw [subBody, subFilters]
  | cons a rest ih =>
    obtain ⟨t, o⟩ := a
    obtain ⟨⟨ht, ho⟩, hrest⟩ := List.forall_mem_cons.mp hl
    simp only [subBody, List.length_append, List.length_cons, u16b_length] at hf
    cases fuel with
    | zero => omega
    | succ f =>
      -- the body is not empty, so the decoder reads an entry
      rw [subFilters]
      · simp only [subBody, lp_field t _ ht]
        rw [ih hrest f (by omega), b8_toNat o (Nat.lt_succ_of_le ho)]
        rfl
      · exact List.cons_ne_nil _ _

theorem unsubFilters_unsubBody (l : List Bytes) (hl : ∀ p ∈ l, p.length ≤ 65535)
    (fuel : Nat) (hf : (unsubBody l).length ≤ fuel) : unsubFilters fuel (unsubBody l) = some l := by
  induction l generalizing fuel with
  | nil => rw [unsubBody, unsubFilters]
  | cons t rest ih =>
    obtain ⟨ht, hrest⟩ := List.forall_mem_cons.mp hl
    simp only [unsubBody, List.length_append, u16b_length] at hf
    cases fuel with
    | zero => omega
    | succ f =>
      rw [unsubFilters]
      · simp only [unsubBody, lp_field t _ ht]
        rw [ih hrest f (by omega)]
        rfl
      · exact List.cons_ne_nil _ _

theorem encSubscribe_inv {proto mid : Nat} {topics : List (Bytes × Nat)} {props : Option Props} {bs : Bytes}
    (h : encSubscribe proto mid topics props = .ok bs) :
    ∃ pp, packProps proto props = .ok pp ∧ mid ≤ 65535 ∧ (∀ p ∈ topics, p.1.length ≤ 65535 ∧ p.2 ≤ 255) ∧
      Framed (0x80 ||| 0x2) (u16b mid ++ (pp ++ subBody topics)) bs := by
  simp only [encSubscribe, bind_ok, pure_ok] at h
  obtain ⟨pp, hpp, rlb, hrl, m, hm, body, hbody, rfl⟩ := h
  obtain ⟨hm1, rfl⟩ := packU16_nat_inv hm
  obtain ⟨rfl, hgood⟩ := encSubEntries_inv hbody
  have hlen : (u16b mid ++ (pp ++ subBody topics)).length
      = 2 + pp.length + (topics.map (fun t => 2 + t.1.length + 1)).sum := by
    rw [List.length_append, List.length_append, u16b_length, subBody_length, Nat.add_assoc]
  refine ⟨pp, hpp, hm1, hgood, ?_⟩
  simpa only [List.append_assoc] using framed_of_enc hrl hlen

theorem encUnsubscribe_inv {proto mid : Nat} {topics : List Bytes} {props : Option Props} {bs : Bytes}
    (h : encUnsubscribe proto mid topics props = .ok bs) :
    ∃ pp, packProps proto props = .ok pp ∧ mid ≤ 65535 ∧ (∀ p ∈ topics, p.length ≤ 65535) ∧
      Framed (0xA0 ||| 0x2) (u16b mid ++ (pp ++ unsubBody topics)) bs := by
  simp only [encUnsubscribe, bind_ok, pure_ok] at h
  obtain ⟨pp, hpp, rlb, hrl, m, hm, body, hbody, rfl⟩ := h
  obtain ⟨hm1, rfl⟩ := packU16_nat_inv hm
  obtain ⟨rfl, hgood⟩ := encUnsubEntries_inv hbody
  have hlen : (u16b mid ++ (pp ++ unsubBody topics)).length
      = 2 + pp.length + (topics.map (fun t => 2 + t.length)).sum := by
    rw [List.length_append, List.length_append, u16b_length, unsubBody_length, Nat.add_assoc]
  refine ⟨pp, hpp, hm1, hgood, ?_⟩
  simpa only [List.append_assoc] using framed_of_enc hrl hlen

theorem decodeBody_disconnect_bare (proto : Nat) : decodeBody proto 14 0 [] = some (.disconnect none none) := by
  unfold decodeBody
  by_cases h5 : proto = 5 <;> simp only [↓reduceIte, Nat.reduceEqDiff, or_self, ne_eq, not_true, h5]

theorem decodeBody_disconnect (rcb : UInt8) (pp : Bytes) (ob : Option Bytes)
    (h : match ob with
      | none => pp = []
      | some body => pp = Spec.vbi body.length ++ body ∧ body.length ≤ 268435455) :
    decodeBody 5 14 0 (rcb :: pp) = some (.disconnect (some rcb.toNat) ob) := by
  cases ob with
  | none => cases h; rfl
  | some body =>
    obtain ⟨rfl, hl⟩ := h
    have hpb := propsBlock_block body [] hl
    rw [List.append_nil] at hpb
    -- the block is not empty: the decoder goes on after the reason code
    obtain ⟨x, xs, hx⟩ := List.exists_cons_of_ne_nil
      (fun h => vbi_ne_nil body.length (List.append_eq_nil_iff.mp h).1)
    rw [hx] at hpb ⊢
    unfold decodeBody
    simp only [↓reduceIte, Nat.reduceEqDiff, or_self, ne_eq, not_true, hpb]

def connName (proto : Nat) : Bytes := if proto ≥ 4 then [77, 81, 84, 84] else [77, 81, 73, 115, 100, 112]

/-- connect flags byte as computed by `_send_connect` -/
def connFlags (a : ConnectArgs) : Nat :=
  let flags0 : Nat := if a.cleanFlag then 0x02 else 0
  let flags1 : Nat := match a.will with
    | some w => flags0 ||| (0x04 ||| ((w.qos &&& 0x03) <<< 3) ||| ((boolBit w.retain &&& 0x01) <<< 5))
    | none => flags0
  match a.username with
    | some _ => (flags1 ||| 0x80) ||| (match a.password with | some _ => 0x40 | none => 0)
    | none => flags1

def connVer (a : ConnectArgs) : Nat := if a.bridge then a.proto ||| 0x80 else a.proto

def connRl (a : ConnectArgs) (cprops wprops : Bytes) : Nat :=
  2 + (connName a.proto).length + 1 + 1 + 2 + 2 + a.clientId.length
    + (match a.will with | some w => 2 + w.topic.length + 2 + w.payload.length | none => 0)
    + (match a.username with
        | some u => 2 + u.length + (match a.password with | some p => 2 + p.length | none => 0)
        | none => 0)
    + cprops.length + wprops.length

/-! As in `ite_bind`, for `let x ← match …`: the three optional parts of `encConnect`, `k` the rest of the block. -/

def wpropsK {β : Type} (proto : Nat) (will : Option Will) (k : Bytes → Except Exc β) : Except Exc β :=
  match will with
  | some w => packProps proto w.props >>= k
  | none => k []

def willK {β : Type} (will : Option Will) (wprops : Bytes) (k : Bytes → Except Exc β) : Except Exc β :=
  match will with
  | some w => str16 w.topic >>= fun t => str16 w.payload >>= fun p => k (wprops ++ t ++ p)
  | none => k []

def userK {β : Type} (user pass : Option Bytes) (k : Bytes → Except Exc β) : Except Exc β :=
  match user with
  | some u => str16 u >>= fun ub => match pass with
    | some p => str16 p >>= fun pb => k (ub ++ pb)
    | none => k (ub ++ [])
  | none => k []

theorem encConnect_eq (a : ConnectArgs) : encConnect a =
    packProps a.proto a.props >>= fun cprops =>
    wpropsK a.proto a.will fun wprops =>
    remLenEncChecked (connRl a cprops wprops) >>= fun rlb =>
    packU16 a.keepalive >>= fun ka =>
    str16 a.clientId >>= fun cid =>
    willK a.will wprops fun willPart =>
    userK a.username a.password fun userPart =>
    pure ([b8 0x10] ++ rlb
      ++ [b8 ((connName a.proto).length / 256), b8 ((connName a.proto).length % 256)] ++ connName a.proto
      ++ [b8 (connVer a), b8 (connFlags a)] ++ ka ++ cprops ++ cid ++ willPart ++ userPart) := rfl

def willBytes (will : Option Will) (wprops : Bytes) : Bytes :=
  match will with
  | some w => wprops ++ (u16b w.topic.length ++ (w.topic ++ (u16b w.payload.length ++ w.payload)))
  | none => []

def userBytes (user pass : Option Bytes) : Bytes :=
  match user with
  | some u => u16b u.length ++ (u ++ (match pass with | some p => u16b p.length ++ p | none => []))
  | none => []

def connBody (a : ConnectArgs) (cprops wprops : Bytes) : Bytes :=
  u16b (connName a.proto).length ++ (connName a.proto ++ (b8 (connVer a) :: b8 (connFlags a) ::
    (u16b a.keepalive.toNat ++ (cprops ++ (u16b a.clientId.length ++ (a.clientId ++
      (willBytes a.will wprops ++ userBytes a.username a.password)))))))

theorem wpropsK_inv {β : Type} {proto : Nat} {will : Option Will} {k : Bytes → Except Exc β} {b : β}
    (h : wpropsK proto will k = .ok b) :
    ∃ wprops, (∀ w, will = some w → packProps proto w.props = .ok wprops) ∧ (will = none → wprops = []) ∧
      k wprops = .ok b := by
  cases will with
  | none => exact ⟨[], nofun, fun _ => rfl, h⟩
  | some w =>
    obtain ⟨wprops, hw, h⟩ := bind_ok.mp h
    exact ⟨wprops, by rintro _ ⟨⟩; exact hw, nofun, h⟩

theorem willK_inv {β : Type} {will : Option Will} {wprops : Bytes} {k : Bytes → Except Exc β} {b : β}
    (h : willK will wprops k = .ok b) :
    (∀ w, will = some w → w.topic.length ≤ 65535 ∧ w.payload.length ≤ 65535) ∧ k (willBytes will wprops) = .ok b := by
  cases will with
  | none => exact ⟨nofun, h⟩
  | some w =>
    simp only [willK, bind_ok] at h
    obtain ⟨t, ht, p, hp, h⟩ := h
    obtain ⟨ht1, rfl⟩ := str16_inv ht
    obtain ⟨hp1, rfl⟩ := str16_inv hp
    exact ⟨by rintro _ ⟨⟩; exact ⟨ht1, hp1⟩, by simpa only [willBytes, List.append_assoc] using h⟩

theorem userK_inv {β : Type} {user pass : Option Bytes} {k : Bytes → Except Exc β} {b : β}
    (h : userK user pass k = .ok b) :
    (∀ u, user = some u → u.length ≤ 65535 ∧ ∀ p, pass = some p → p.length ≤ 65535) ∧
      k (userBytes user pass) = .ok b := by
  cases user with
  | none => exact ⟨nofun, h⟩
  | some u =>
    obtain ⟨ub, hub, h⟩ := bind_ok.mp h
    obtain ⟨hu1, rfl⟩ := str16_inv hub
    cases pass with
    | none => exact ⟨by rintro _ ⟨⟩; exact ⟨hu1, nofun⟩, h⟩
    | some p =>
      obtain ⟨pb, hpb, h⟩ := bind_ok.mp h
      obtain ⟨hp1, rfl⟩ := str16_inv hpb
      exact ⟨by rintro _ ⟨⟩; exact ⟨hu1, by rintro _ ⟨⟩; exact hp1⟩, by simpa only [userBytes, List.append_assoc] using h⟩

theorem userBytes_length (user pass : Option Bytes) :
    (userBytes user pass).length = match user with
      | some u => 2 + u.length + (match pass with | some p => 2 + p.length | none => 0)
      | none => 0 := by
  cases user with
  | none => rfl
  | some u => cases pass <;> simp only [userBytes, List.length_append, u16b_length, List.length_nil, Nat.add_assoc]

/-- will properties are packed only if there is a will -/
theorem willBytes_length (will : Option Will) (wprops : Bytes) : (will = none → wprops = []) →
    (willBytes will wprops).length =
      (match will with | some w => 2 + w.topic.length + 2 + w.payload.length | none => 0) + wprops.length := by
  intro hw
  cases will with
  | none => cases hw rfl; rfl
  | some w => simp only [willBytes, List.length_append, u16b_length]; omega

theorem connBody_length (a : ConnectArgs) (cprops wprops : Bytes) (hw : a.will = none → wprops = []) :
    (connBody a cprops wprops).length = connRl a cprops wprops := by
  simp only [connBody, connRl, List.length_append, List.length_cons, u16b_length, willBytes_length _ _ hw,
    userBytes_length]
  omega

theorem encConnect_inv {a : ConnectArgs} {bs : Bytes} (h : encConnect a = .ok bs) :
    ∃ cprops wprops, packProps a.proto a.props = .ok cprops ∧
      (∀ w, a.will = some w → packProps a.proto w.props = .ok wprops) ∧
      0 ≤ a.keepalive ∧ a.keepalive ≤ 65535 ∧ a.clientId.length ≤ 65535 ∧
      (∀ w, a.will = some w → w.topic.length ≤ 65535 ∧ w.payload.length ≤ 65535) ∧
      (∀ u, a.username = some u → u.length ≤ 65535 ∧ ∀ p, a.password = some p → p.length ≤ 65535) ∧
      Framed 0x10 (connBody a cprops wprops) bs := by
  rw [encConnect_eq] at h
  obtain ⟨cprops, hc, h⟩ := bind_ok.mp h
  obtain ⟨wprops, hw, hwn, h⟩ := wpropsK_inv h
  obtain ⟨rlb, hrl, h⟩ := bind_ok.mp h
  obtain ⟨ka, hka, h⟩ := bind_ok.mp h
  obtain ⟨cid, hcid, h⟩ := bind_ok.mp h
  obtain ⟨hwill, h⟩ := willK_inv h
  obtain ⟨huser, h⟩ := userK_inv h
  cases h
  obtain ⟨⟨hk1, hk2⟩, rfl⟩ := packU16_inv hka
  obtain ⟨hcid1, rfl⟩ := str16_inv hcid
  refine ⟨cprops, wprops, hc, hw, hk1, hk2, hcid1, hwill, huser, ?_⟩
  simpa only [connBody, u16b, List.append_assoc, List.cons_append, List.nil_append]
    using framed_of_enc hrl (connBody_length a cprops wprops hwn)

theorem connName_ok (proto : Nat) (hproto : proto = 3 ∨ proto = 4 ∨ proto = 5) :
    (connName proto).length ≤ 65535 ∧
    ((connName proto = [77, 81, 73, 115, 100, 112] ∧ proto = 3) ∨ (connName proto = [77, 81, 84, 84] ∧ (proto = 4 ∨ proto = 5))) := by
  rcases hproto with rfl | rfl | rfl <;> decide

theorem connVer_bits (a : ConnectArgs) (h : a.proto < 128) :
    (b8 (connVer a)).toNat % 128 = a.proto ∧ ((b8 (connVer a)).toNat ≥ 128) = (a.bridge = true) := by
  unfold connVer
  cases a.bridge
  · rw [if_neg Bool.false_ne_true, b8_toNat _ (Nat.lt_trans h (by decide)), Nat.mod_eq_of_lt h]
    exact ⟨rfl, propext ⟨fun hge => absurd h (Nat.not_lt.mpr hge), nofun⟩⟩
  · rw [if_pos rfl, lor128 _ h, b8_toNat _ (Nat.add_lt_add_right h 128), Nat.add_mod_right, Nat.mod_eq_of_lt h]
    exact ⟨rfl, propext ⟨fun _ => rfl, fun _ => Nat.le_add_left _ _⟩⟩

/-- the fields of a CONNECT flags byte, as the strict decoder reads them -/
abbrev FlagFields (f : Nat) (clean hasWill : Bool) (willQos : Nat) (willRetain user pass : Bool) : Prop :=
  f % 2 = 0 ∧ f / 2 % 2 = boolBit clean ∧ f / 4 % 2 = boolBit hasWill ∧ f / 8 % 4 = willQos ∧
    f / 32 % 2 = boolBit willRetain ∧ f / 128 % 2 = boolBit user ∧ f / 64 % 2 = boolBit pass

/-- all that the flags byte depends on: 96 combinations -/
theorem connFlags_table : ∀ (clean hasWill retain user pass : Bool) (q : Fin 3),
    FlagFields (b8 (connFlags
        { proto := 0, bridge := false, cleanFlag := clean, keepalive := 0, clientId := [], props := none
          will := if hasWill then some { topic := [], payload := [], qos := q, retain := retain, props := none } else none
          username := if user then some [] else none
          password := if pass then some [] else none })).toNat
      clean hasWill (if hasWill then q else 0) (hasWill && retain) user (user && pass) := by
  decide +kernel

theorem connFlags_bits (a : ConnectArgs) (hwq : ∀ w, a.will = some w → w.qos ≤ 2) :
    FlagFields (b8 (connFlags a)).toNat a.cleanFlag a.will.isSome (match a.will with | some w => w.qos | none => 0)
      (match a.will with | some w => w.retain | none => false) a.username.isSome
      (a.username.isSome && a.password.isSome) := by
  obtain ⟨proto, bridge, clean, ka, cid, will, user, pass, props⟩ := a
  have t := fun hw r q => connFlags_table clean hw r user.isSome pass.isSome q
  cases will with
  | none => cases user <;> cases pass <;> exact t false false 0
  | some w => cases user <;> cases pass <;> exact t true w.retain ⟨w.qos, Nat.lt_succ_of_le (hwq w rfl)⟩

theorem decodeBody_connBody (a : ConnectArgs) (cprops wprops : Bytes) (props wp : Option Bytes)
    (hproto : a.proto = 3 ∨ a.proto = 4 ∨ a.proto = 5)
    (hwq : ∀ w, a.will = some w → w.qos ≤ 2)
    (hpw : a.password.isSome → a.username.isSome)
    (hka : a.keepalive.toNat ≤ 65535) (hcid : a.clientId.length ≤ 65535)
    (hwill : ∀ w, a.will = some w → w.topic.length ≤ 65535 ∧ w.payload.length ≤ 65535)
    (huser : ∀ u, a.username = some u → u.length ≤ 65535 ∧ ∀ p, a.password = some p → p.length ≤ 65535)
    (hc : ∀ rest, optProps a.proto (cprops ++ rest) = some (props, rest))
    (hw : ∀ w, a.will = some w → ∀ rest, optProps a.proto (wprops ++ rest) = some (wp, rest)) :
    decodeBody a.proto 1 0 (connBody a cprops wprops) =
      some (.connect a.proto a.bridge a.cleanFlag a.keepalive.toNat a.clientId
              (a.will.map fun w => { topic := w.topic, payload := w.payload, qos := w.qos, retain := w.retain,
                                     props := wp })
              a.username a.password props) := by
  obtain ⟨hnl, hname⟩ := connName_ok a.proto hproto
  obtain ⟨v1, v2⟩ := connVer_bits a (by omega)
  obtain ⟨f0, f1, f2, f3, f4, f5, f6⟩ := connFlags_bits a hwq
  obtain ⟨proto, bridge, clean, ka, cid, will, user, pass, props'⟩ := a
  unfold decodeBody
  -- up to the client id, the same on every CONNECT
  simp only [↓reduceIte, connBody, lp_field _ _ hnl, v1, v2, hname, f0, f1, f2, f3, f4, f5, f6, u16_u16b _ hka, hc,
    lp_field _ _ hcid, ne_eq, not_true, boolBit_eq_one, Nat.zero_ne_one, Bool.decide_eq_true]
  cases will
  case' none =>
    simp only [Option.isSome_none, Bool.false_eq_true, not_true, or_self, and_false, if_false, willBytes,
      List.nil_append, Option.map_none, Nat.reduceEqDiff]
  case' some w =>
    obtain ⟨hwt, hwpl⟩ := hwill w rfl
    simp only [Option.isSome_some, not_true, false_and, if_false, if_true,
      Nat.ne_of_lt (Nat.lt_succ_of_le (hwq w rfl)), willBytes, List.append_assoc, hw w rfl, lp_field _ _ hwt,
      lp_field _ _ hwpl, Option.map_some]
  -- user name and password are read the same way after either
  all_goals
    cases user with
    | none =>
      cases pass with
      | some p => exact absurd (hpw rfl) Bool.false_ne_true
      | none => simp only [userBytes, Option.isSome_none, Bool.and_self, Bool.false_eq_true, if_false, not_true]
    | some u =>
      obtain ⟨hu, hp⟩ := huser u rfl
      cases pass with
      | none =>
        simp only [userBytes, Option.isSome_some, Option.isSome_none, Bool.and_false, Bool.false_eq_true, if_true,
          if_false, lp_field _ _ hu, Option.map_some, not_true]
      | some p =>
        simp only [userBytes, Option.isSome_some, Bool.and_self, if_true, lp_field _ _ hu, lp_field_end _ (hp p rfl),
          Option.map_some, not_true, if_false]

end Paho.WireLemmas
