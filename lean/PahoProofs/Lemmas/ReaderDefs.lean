/-
What C05 part 1 is stated with: the bytes and the terminal event of a raw-socket queue, the pump `drain` that calls
`_packet_read()` until the transport has nothing more, and the reference split of a byte stream into packets.
-/
import Paho.Model.Reader
namespace Paho

/-- the bytes a queue will deliver before its first terminal event -/
def dataOf : List RecvItem → Bytes
  | [] => []
  | .data b :: rest => b ++ dataOf rest
  | .eagain :: rest => dataOf rest
  | .eof :: _ => []
  | .err :: _ => []

/-- does the queue end the connection (EOF or error) after `dataOf`? -/
def terminalOf : List RecvItem → Bool
  | [] => false
  | .data _ :: rest => terminalOf rest
  | .eagain :: rest => terminalOf rest
  | .eof :: _ => true
  | .err :: _ => true

/-- harness well-formedness: no empty data chunks -/
def noEmptyChunks : List RecvItem → Bool
  | [] => true
  | .data b :: rest => !b.isEmpty && noEmptyChunks rest
  | _ :: rest => noEmptyChunks rest

/-- how a sequence of `_packet_read()` calls ends -/
inductive DrainEnd where
  | idle          -- everything delivered so far was consumed; the reader waits for more bytes
  | connLost      -- EOF / error met
  | protocol      -- more than four remaining-length bytes, or a zero command byte
  deriving DecidableEq, Repr

/-- call `_packet_read()` again and again (as loop_read / the network loop do) until the transport has nothing
more: collects the completed packets in order. After each completed packet `_in_packet` is reset. -/
def drain : (fuel : Nat) → RState → List RecvItem → List (Nat × Bytes) → List (Nat × Bytes) × RState × DrainEnd
  | 0, r, _, acc => (acc, r, .idle)
  | fuel + 1, r, q, acc =>
    if q.isEmpty ∧ ¬ (r.haveRemaining ∧ r.toProcess = 0) then (acc, r, .idle)
    else
      match packetRead r q with
      | (r, q, .again) => if q.isEmpty then (acc, r, .idle) else drain fuel r q acc
      | (r, q, .againBusy) => drain fuel r q acc
      | (r, _, .connLost) => (acc, r, .connLost)
      | (r, _, .protocol) => (acc, r, .protocol)
      | (_, q, .complete cmd body) => drain fuel {} q (acc ++ [(cmd, body)])

/-- enough calls for `q`: each takes a byte or an item off the queue, or hands over a packet the reader already holds
(`ReaderGen.fuel_step`); the `+ 8` is slack -/
def drainFuel (q : List RecvItem) : Nat := 2 * ((q.map fun i => match i with | .data b => b.length + 1 | _ => 1).sum) + 8

/-- reference semantics on the plain byte stream: split into (command byte, body) packets by the MQTT framing
rule; stops with `protocol` at a fifth length byte; the unfinished tail is dropped (it stays in the reader) -/
def splitStream : (fuel : Nat) → Bytes → List (Nat × Bytes) × Bool
  | 0, _ => ([], false)
  | _, [] => ([], false)
  | fuel + 1, cmd :: rest =>
    -- remaining length: up to 4 bytes
    let rec rl : Nat → Bytes → Nat → Nat → Option (Option (Nat × Bytes))   -- none = protocol error; some none = incomplete
      | 0, _, _, _ => none
      | _, [], _, _ => some none
      | k + 1, b :: bs, mult, acc =>
        let acc := acc + (b.toNat &&& 127) * mult
        if b.toNat &&& 128 = 0 then some (some (acc, bs)) else rl k bs (mult * 128) acc
    match rl 4 rest 1 0 with
    | none => ([], true)
    | some none => ([], false)
    | some (some (n, bs)) =>
      if n ≤ bs.length then
        let (ps, e) := splitStream fuel (bs.drop n)
        ((cmd.toNat, bs.take n) :: ps, e)
      else ([], false)

/-- every packet of the byte stream — complete ones, and an incomplete last one — starts with a non-zero
byte (same traversal as `splitStream`; nothing is required after a fifth length byte, where the reader stops) -/
def cmdsNonzero : (fuel : Nat) → Bytes → Bool
  | 0, _ => true
  | _, [] => true
  | fuel + 1, cmd :: rest =>
    cmd != 0 &&
    match splitStream.rl 4 rest 1 0 with
    | some (some (n, bs)) => if n ≤ bs.length then cmdsNonzero fuel (bs.drop n) else true
    | _ => true

end Paho
