/-
Lemmas for the composition packet queue / `_packet_write` ∘ `_WebsocketWrapper._send_impl` (Paho.Model.WsWriter).
-/
import Paho.Model.WsWriter
import PahoProofs.Lemmas.WsSend

namespace Paho.WsW
open Paho Paho.Ws

/-- the frames of a list of packets, the i-th one masked with the i-th key drawn -/
def framesOf : Nat → List Bytes → List Bytes
  | _, [] => []
  | i, p :: ps => createFrame 2 p (keyOf i) 1 :: framesOf (i + 1) ps

theorem framesOf_length (i : Nat) (l : List Bytes) : (framesOf i l).length = l.length := by
  induction l generalizing i with
  | nil => rfl
  | cons a l ih => simp [framesOf, ih]

theorem framesOf_append (i : Nat) (l m : List Bytes) :
    framesOf i (l ++ m) = framesOf i l ++ framesOf (i + l.length) m := by
  induction l generalizing i with
  | nil => rfl
  | cons a l ih => rw [List.cons_append, framesOf, framesOf, ih, List.length_cons, Nat.add_assoc, Nat.add_comm 1]; rfl

/-- the frame creation at the start of `_send_impl` when nothing is pending -/
def prep (s : St) (data : Bytes) : St :=
  if s.ws.sendbuffer.length = 0 then
    { s with ws := { sendbuffer := createFrame 2 data (keyOf s.nkeys) 1, requestedSize := data.length },
             nkeys := s.nkeys + 1, frames := s.frames ++ [createFrame 2 data (keyOf s.nkeys) 1] }
  else s

theorem prep_busy (s : St) (data : Bytes) : (prep s data).ws.sendbuffer ≠ [] := by
  unfold prep
  split
  · exact createFrame_ne_nil _ _ _
  · rename_i h
    intro h0; apply h; rw [h0]; rfl

/-- the frame creation at the start of `_send_impl` can be done beforehand: `iter` then finds the wrapper busy -/
theorem iter_prep (s : St) (p : Pkt) (rest : List Pkt) (out : SockSend) (hq : s.queue = p :: rest) :
    iter s out = iter (prep s (p.bytes.drop p.pos)) out := by
  obtain ⟨queue, ws, wire, nkeys, enq, done, frames⟩ := s
  subst hq
  unfold prep
  by_cases hb : ws.sendbuffer.length = 0
  · rw [if_pos hb]
    unfold iter
    simp only [sendImpl_eq, inflight, hb, if_true, createFrame_ne_nil, List.length_eq_zero_iff, if_false]
  · rw [if_neg hb]

/-- The invariant that ties the packet queue to the wrapper. `fresh`: no queued packet is partly processed, because
`_send_impl` returns 0 or the whole `len(data)`, never a part. `nkeys` counts the frames created: one per packet done,
and one more while the wrapper holds (`busy`) the rest of the frame of the head packet, whose size it remembers. -/
structure Inv (s : St) : Prop where
  fifo : s.done ++ s.queue.map (·.bytes) = s.enq
  fresh : ∀ p ∈ s.queue, p.pos = 0 ∧ p.toProcess = (p.bytes.length : Int) ∧ p.bytes ≠ []
  wire : s.wire ++ s.ws.sendbuffer = s.frames.flatten
  frames : s.frames = framesOf 0 (s.enq.take s.nkeys)
  idle : s.ws.sendbuffer = [] → s.nkeys = s.done.length
  busy : s.ws.sendbuffer ≠ [] → s.nkeys = s.done.length + 1 ∧
          (∃ p rest, s.queue = p :: rest ∧ s.ws.requestedSize = p.bytes.length) ∧
          (∃ fs pre, s.frames = fs ++ [pre ++ s.ws.sendbuffer])

theorem inv_init : Inv {} := ⟨rfl, nofun, rfl, rfl, fun _ => rfl, fun h => absurd rfl h⟩

theorem inv_enqueue {s : St} (h : Inv s) (p : Bytes) (hp : p ≠ []) : Inv (enqueue s p) := by
  obtain ⟨fifo, fresh, wire, frames, idle, busy⟩ := h
  have hk : s.nkeys ≤ s.enq.length := by
    by_cases hb : s.ws.sendbuffer = []
    · rw [idle hb, ← fifo]; simp
    · obtain ⟨hn, ⟨q, rest, hq, _⟩, _⟩ := busy hb
      rw [hn, ← fifo, hq]; simp
  refine ⟨?_, List.forall_mem_append.2 ⟨fresh, List.forall_mem_singleton.2 ⟨rfl, rfl, hp⟩⟩, wire, ?_, idle, ?_⟩
  · simp only [WsW.enqueue, List.map_append, List.map_cons, List.map_nil, ← List.append_assoc, fifo]
  · simp only [WsW.enqueue]
    rw [frames, List.take_append_of_le_length hk]
  · intro hb
    obtain ⟨hn, ⟨q, rest, hq, hr⟩, hf⟩ := busy hb
    refine ⟨hn, ⟨q, rest ++ [{ bytes := p, pos := 0, toProcess := p.length }], ?_, hr⟩, hf⟩
    simp only [WsW.enqueue, hq, List.cons_append]

/-- the state between the frame creation and the raw send of one `_send_impl`: the wrapper is busy with the frame of the
head packet (`Inv` with the conclusions of `busy` as fields) -/
structure BusyInv (s : St) (p : Pkt) (rest : List Pkt) : Prop where
  q : s.queue = p :: rest
  fifo : s.done ++ s.queue.map (·.bytes) = s.enq
  fresh : ∀ p ∈ s.queue, p.pos = 0 ∧ p.toProcess = (p.bytes.length : Int) ∧ p.bytes ≠ []
  wire : s.wire ++ s.ws.sendbuffer = s.frames.flatten
  frames : s.frames = framesOf 0 (s.enq.take s.nkeys)
  nk : s.nkeys = s.done.length + 1
  rs : s.ws.requestedSize = p.bytes.length
  last : ∃ fs pre, s.frames = fs ++ [pre ++ s.ws.sendbuffer]
  ne : s.ws.sendbuffer ≠ []

theorem inv_prep {s : St} (h : Inv s) (p : Pkt) (rest : List Pkt) (hq : s.queue = p :: rest) :
    BusyInv (prep s (p.bytes.drop p.pos)) p rest := by
  obtain ⟨fifo, fresh, wire, frames, idle, busy⟩ := h
  have hd : p.bytes.drop p.pos = p.bytes := by rw [(fresh p (hq ▸ List.mem_cons_self)).1]; rfl
  rw [hd]
  unfold WsW.prep
  by_cases hb : s.ws.sendbuffer.length = 0
  · have hb' : s.ws.sendbuffer = [] := List.length_eq_zero_iff.1 hb
    have hn := idle hb'
    rw [if_pos hb]
    -- the key drawn is the `nkeys`-th, the packet framed is the `nkeys`-th appended
    have hdone : s.frames = framesOf 0 s.done := by rw [frames, hn, ← fifo, List.take_left' rfl]
    refine ⟨hq, fifo, fresh, ?_, ?_, congrArg (· + 1) hn, rfl, ⟨s.frames, [], rfl⟩, createFrame_ne_nil _ _ _⟩
    · show s.wire ++ _ = (s.frames ++ [_]).flatten
      rw [List.flatten_append, ← wire, hb', List.append_nil, List.flatten_singleton]
    · show s.frames ++ [_] = framesOf 0 (s.enq.take (s.nkeys + 1))
      rw [hn, ← fifo, hq, List.take_length_add_append, hdone, framesOf_append, Nat.zero_add]; rfl
  · have hb' : s.ws.sendbuffer ≠ [] := fun h0 => hb (by rw [h0]; rfl)
    obtain ⟨hn, ⟨q, r, hq', hr⟩, hf⟩ := busy hb'
    rw [if_neg hb]
    cases hq.symm.trans hq'
    exact ⟨hq, fifo, fresh, wire, frames, hn, hr, hf, hb'⟩

/-- `k` more bytes of the frame in flight have gone out; the wrapper is left with the rest of it -/
theorem BusyInv.sent {s : St} {p : Pkt} {rest : List Pkt} (hb : BusyInv s p rest) (k : Nat) :
    (s.wire ++ s.ws.sendbuffer.take k) ++ s.ws.sendbuffer.drop k = s.frames.flatten ∧
    ∃ fs pre, s.frames = fs ++ [pre ++ s.ws.sendbuffer.drop k] := by
  obtain ⟨fs, pre, hlast⟩ := hb.last
  refine ⟨by rw [List.append_assoc, List.take_append_drop, hb.wire], fs, pre ++ s.ws.sendbuffer.take k, ?_⟩
  rw [List.append_assoc, List.take_append_drop, hlast]

theorem inv_iter {s : St} (h : Inv s) (out : SockSend) :
    Inv (iter s out).1 ∧ ((iter s out).2 = none → (iter s out).1.queue.length + 1 = s.queue.length) ∧
      (iter s out).2 ≠ some .stuck := by
  cases hq : s.queue with
  | nil => unfold iter; rw [hq]; exact ⟨h, nofun, nofun⟩
  | cons p rest =>
    rw [iter_prep s p rest out hq]
    have hb := inv_prep h p rest hq
    generalize WsW.prep s (p.bytes.drop p.pos) = s0 at hb
    obtain ⟨queue, ws, wire, nkeys, enq, done, frames⟩ := s0
    have hq0 : queue = p :: rest := hb.q
    subst hq0
    have hp := hb.fresh p List.mem_cons_self
    have hlen : ws.sendbuffer.length ≠ 0 := fun h0 => hb.ne (List.eq_nil_of_length_eq_zero h0)
    unfold iter
    simp only [sendImpl_eq, inflight, if_neg hlen]
    -- part of the frame is still pending: `_packet_write` keeps the packet and returns
    have hpart : ∀ k, ws.sendbuffer.drop k ≠ [] → Inv ⟨p :: rest, { ws with sendbuffer := ws.sendbuffer.drop k },
        wire ++ ws.sendbuffer.take k, nkeys, enq, done, frames⟩ := fun k hne =>
      ⟨hb.fifo, hb.fresh, (hb.sent k).1, hb.frames, fun h0 => absurd h0 hne,
        fun _ => ⟨hb.nk, ⟨p, rest, rfl, hb.rs⟩, (hb.sent k).2⟩⟩
    cases out with
    | wouldBlock => exact ⟨hpart 0 hb.ne, nofun, nofun⟩
    | error => exact ⟨hpart 0 hb.ne, nofun, nofun⟩
    | accept a =>
      simp only [outcome]
      generalize taken (.accept a) ws.sendbuffer.length = k
      by_cases hd : (ws.sendbuffer.drop k).length = 0
      · -- the frame in flight is now completely accepted: `_send_impl` returns the remembered size, the packet is done
        have hrs : ws.requestedSize = p.bytes.length := hb.rs
        have hpos : ws.requestedSize > 0 := by rw [hrs]; exact List.length_pos_iff.2 hp.2.2
        have hz : p.toProcess - (ws.requestedSize : Int) = 0 := by rw [hp.2.1, hrs]; exact Int.sub_self _
        rw [if_pos hd, if_pos hpos, if_pos hz]
        refine ⟨⟨?_, fun x hx => hb.fresh x (List.mem_cons_of_mem _ hx), (hb.sent k).1, hb.frames,
          fun _ => hb.nk.trans (List.length_append (as := done) (bs := [p.bytes])).symm,
          fun hne => absurd (List.length_eq_zero_iff.1 hd) hne⟩, fun _ => rfl, nofun⟩
        exact (List.append_assoc done [p.bytes] _).trans hb.fifo
      · rw [if_neg hd, if_neg (Nat.lt_irrefl 0)]
        exact ⟨hpart k (fun h0 => hd (h0 ▸ rfl)), nofun, nofun⟩

theorem inv_packetWrite (fuel : Nat) (s : St) (outs : List SockSend) (h : Inv s) :
    Inv (packetWrite fuel s outs).1 ∧ (s.queue.length + 1 ≤ fuel → (packetWrite fuel s outs).2 ≠ .stuck) := by
  induction fuel generalizing s outs with
  | zero => exact ⟨h, fun hf => absurd hf (Nat.not_succ_le_zero _)⟩
  | succ fuel ih =>
    have hi := inv_iter h (outs.headD acceptAll)
    unfold packetWrite
    cases hr : iter s (outs.headD acceptAll) with
    | mk s' r =>
      rw [hr] at hi
      cases r with
      | some r => exact ⟨hi.1, fun _ hst => hi.2.2 (congrArg some hst)⟩
      | none =>
        -- every iteration that does not return has popped a packet
        have hl : s'.queue.length + 1 = s.queue.length := hi.2.1 rfl
        have := ih s' outs.tail hi.1
        exact ⟨this.1, fun hf => this.2 (by omega)⟩

/-- every packet handed to `_packet_queue` is non-empty (an MQTT packet has at least two bytes) -/
def OpsOk (ops : List Op) : Prop := ∀ op ∈ ops, ∀ p, op = Op.enq p → p ≠ []

theorem inv_run {s : St} (h : Inv s) {ops : List Op} (hops : OpsOk ops) : Inv (run s ops) :=
  List.foldlRecOn ops _ h fun s h op hop => by
    cases op with
    | enq p => exact inv_enqueue h p (hops _ hop p rfl)
    | write outs => exact (inv_packetWrite _ s outs h).1

end Paho.WsW
