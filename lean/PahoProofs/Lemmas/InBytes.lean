/-
First bytes of the packets produced by the encoders: by them C03 tells an acknowledgement, the session
refinement a CONNECT and the keepalive proofs a PINGREQ from the other packets in the queue.
-/
import Paho.Model.Codec
namespace Paho.InLemmas
open Paho

def NotAck (b : Bytes) : Prop := b.head? ≠ some 0x40 ∧ b.head? ≠ some 0x70

theorem encCmdMid_ok (cmd mid : Nat) (h : mid ≤ 65535) :
    encCmdMid cmd (mid : Int) false = .ok [b8 cmd, 2, b8 (mid / 256), b8 (mid % 256)] := by
  have h1 : (0 : Int) ≤ (mid : Int) ∧ (mid : Int) ≤ 65535 := by omega
  simp [encCmdMid, packU16, h1, bind, Except.bind, pure, Except.pure]

def HeadIs (x : UInt8) (r : Except Exc Bytes) : Prop := ∀ b, r = .ok b → b.head? = some x

theorem HeadIs.bind {α : Type} {r : Except Exc α} {f : α → Except Exc Bytes} {x : UInt8}
    (h : ∀ a, HeadIs x (f a)) : HeadIs x (r >>= f) := by
  intro b hb
  cases r with
  | error e => cases hb
  | ok a => exact h a b hb

theorem HeadIs.pure {x : UInt8} {l : Bytes} (h : l.head? = some x) : HeadIs x (pure l) := by
  intro b hb
  cases hb
  exact h

theorem HeadIs.ite {x : UInt8} {c : Prop} [Decidable c] {r r' : Except Exc Bytes} (h : HeadIs x r) (h' : HeadIs x r') :
    HeadIs x (if c then r else r') := by
  split <;> assumption

theorem encCmdMid_head {cmd : Nat} {mid : Int} {bytes : Bytes} (h : encCmdMid cmd mid false = .ok bytes) :
    bytes.head? = some (b8 cmd) :=
  HeadIs.bind (fun _ => .pure rfl) _ h

macro "enc_head" h:ident : tactic => `(tactic|
  (simp only [bind, Except.bind, pure, Except.pure] at $h:ident
   repeat' (split at $h:ident)
   all_goals first
     | (cases $h:ident; done)
     | (cases $h:ident; simp; done)
     | skip))

theorem encPublish_head {proto mid : Nat} {topic payload : Bytes} {qos : Nat} {retain dup : Bool} {bytes : Bytes}
    (h : encPublish proto mid topic payload qos retain dup none = .ok bytes) :
    bytes.head? = some (b8 (0x30 ||| ((boolBit dup &&& 0x1) <<< 3) ||| (qos <<< 1) ||| boolBit retain)) := by
  refine (?_ : HeadIs _ (encPublish proto mid topic payload qos retain dup none)) _ h
  unfold encPublish
  -- `m ← if qos > 0 then .. else ..` is compiled to an `if` whose two branches bind and jump to the rest
  exact .bind fun _ => .bind fun _ => .bind fun _ => .ite (.bind fun _ => .pure rfl) (.bind fun _ => .pure rfl)

/-- the first byte of a PUBLISH has bit 5, `0x10` (CONNECT) and `0xC0` (PINGREQ) do not -/
theorem b8_ne_of_bit5 {n : Nat} {k : UInt8} (h : n.testBit 5 = true) (hk : k.toNat.testBit 5 = false := by decide) :
    b8 n ≠ k := fun he => by
  have h2 := Nat.testBit_mod_two_pow n 8 5
  rw [show n % 2 ^ 8 = k.toNat from congrArg UInt8.toNat he, h, hk] at h2
  exact absurd h2 (by decide)

theorem encConnect_head {a : ConnectArgs} {bytes : Bytes} (hw : a.will = none) (hu : a.username = none)
    (h : encConnect a = .ok bytes) : bytes.head? = some (b8 0x10) := by
  refine (?_ : HeadIs _ (encConnect a)) _ h
  unfold encConnect
  rw [hw, hu]
  exact .bind fun _ => .bind fun _ => .bind fun _ => .bind fun _ => .bind fun _ => .bind fun _ => .bind fun _ => .pure rfl

theorem encSubscribe_head {proto mid : Nat} {ts : List (Bytes × Nat)} {bytes : Bytes}
    (h : encSubscribe proto mid ts none = .ok bytes) : bytes.head? = some (b8 0x82) :=
  HeadIs.bind (fun _ => .bind fun _ => .bind fun _ => .bind fun _ => .pure rfl) _ h

theorem encUnsubscribe_head {proto mid : Nat} {ts : List Bytes} {bytes : Bytes}
    (h : encUnsubscribe proto mid ts none = .ok bytes) : bytes.head? = some (b8 0xA2) :=
  HeadIs.bind (fun _ => .bind fun _ => .bind fun _ => .bind fun _ => .pure rfl) _ h

theorem encDisconnect_head {proto : Nat} {bytes : Bytes}
    (h : encDisconnect proto none none = .ok bytes) : bytes.head? = some (b8 0xE0) :=
  HeadIs.ite (.bind fun _ => .pure rfl) (.bind fun _ => .pure rfl) _ h

end Paho.InLemmas
