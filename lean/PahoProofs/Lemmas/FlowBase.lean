/-
Below the QoS handlers the session model touches neither the message store nor the in-flight counter and emits no
`qPublish`: the relation `Fr`, which `frame` shows to be a `SessFrame.Frame`, so that the `*_fr` lemmas are its instances.
Also the projections of `emit` and of an `if` between states (`@[simp]`), and the four codes the write path returns (`rcW`).
-/
import Paho.Model.Session
import PahoProofs.Lemmas.SessionFrame

namespace Paho.FlowLemmas
open Paho Paho.S

def isQPublish : Ev → Bool
  | .qPublish .. => true
  | _ => false

/-- the events appended from `s` to `s'` (when `s.log` is a prefix of `s'.log`) -/
def evsOf (s s' : S) : List Ev := s'.log.drop s.log.length

/-- the fields the flow view (`view`, FlowRel.lean) reads are kept; the new events are of class `P` -/
@[reducible] def FrP (P : Ev → Bool) (s s' : S) : Prop :=
  (∀ e ∈ evsOf s s', P e = true) ∧ s'.lastMid = s.lastMid ∧
  s'.cfg = s.cfg ∧ s'.proto = s.proto ∧ s'.out = s.out ∧ s'.inflight = s.inflight ∧
  s'.firstConnect = s.firstConnect ∧ s'.infos.length = s.infos.length ∧
  s'.log = s.log ++ evsOf s s'

abbrev Fr : S → S → Prop := FrP fun e => !isQPublish e

theorem evsOf_append {s s' : S} {evs : List Ev} (h : s'.log = s.log ++ evs) : evsOf s s' = evs := by
  rw [evsOf, h, List.drop_left]

theorem FrP.ofLog {P : Ev → Bool} {s s' : S} (evs : List Ev) (hlog : s'.log = s.log ++ evs)
    (hP : ∀ e ∈ evs, P e = true)
    (h1 : s'.lastMid = s.lastMid) (h2 : s'.cfg = s.cfg) (h3 : s'.proto = s.proto) (h4 : s'.out = s.out)
    (h5 : s'.inflight = s.inflight) (h6 : s'.firstConnect = s.firstConnect)
    (h7 : s'.infos.length = s.infos.length) : FrP P s s' := by
  have he := evsOf_append hlog
  exact ⟨he ▸ hP, h1, h2, h3, h4, h5, h6, h7, by rw [he, hlog]⟩

theorem frameP (P : Ev → Bool) : SessFrame.Frame (FrP P) (fun e => P e = true) where
  refl s := FrP.ofLog [] (List.append_nil _).symm (List.forall_mem_nil _) rfl rfl rfl rfl rfl rfl rfl
  trans := by
    intro a b c ⟨a0, a1, a2, a3, a4, a5, a6, a7, a8⟩ ⟨b0, b1, b2, b3, b4, b5, b6, b7, b8⟩
    exact FrP.ofLog (evsOf a b ++ evsOf b c) (by rw [b8, a8, List.append_assoc]) (List.forall_mem_append.2 ⟨a0, b0⟩)
      (b1.trans a1) (b2.trans a2) (b3.trans a3) (b4.trans a4) (b5.trans a5) (b6.trans a6) (b7.trans a7)
  emit s e he := FrP.ofLog [e] rfl (List.forall_mem_singleton.2 he) rfl rfl rfl rfl rfl rfl rfl
  upd h := FrP.ofLog [] (by rw [h.log, List.append_nil]) (List.forall_mem_nil _) h.lastMid h.cfg h.proto h.out h.inflight
    h.firstConnect h.infos

theorem frame : SessFrame.Frame Fr (fun e => (!isQPublish e) = true) := frameP _

def isRet : Ev → Bool
  | .ret .. => true
  | _ => false

/-- the socket layer hands over no PUBLISH and reports no result -/
theorem lowEv_class (e : Ev) (h : SessFrame.lowEv e = true) : (!isQPublish e) = true ∧ (!isRet e) = true := by
  cases e <;> first | exact ⟨rfl, rfl⟩ | exact nomatch h

theorem lowEv_not_q (e : Ev) (h : SessFrame.lowEv e = true) : (!isQPublish e) = true := (lowEv_class e h).1

section ite
variable (c : Prop) [Decidable c] (a b : S)
@[simp] theorem ite_cfg : (if c then a else b).cfg = if c then a.cfg else b.cfg := by split <;> rfl
@[simp] theorem ite_lastMid : (if c then a else b).lastMid = if c then a.lastMid else b.lastMid := by split <;> rfl
@[simp] theorem ite_proto : (if c then a else b).proto = if c then a.proto else b.proto := by split <;> rfl
@[simp] theorem ite_out : (if c then a else b).out = if c then a.out else b.out := by split <;> rfl
@[simp] theorem ite_inflight : (if c then a else b).inflight = if c then a.inflight else b.inflight := by split <;> rfl
@[simp] theorem ite_fc : (if c then a else b).firstConnect = if c then a.firstConnect else b.firstConnect := by split <;> rfl
@[simp] theorem ite_infos : (if c then a else b).infos = if c then a.infos else b.infos := by split <;> rfl
end ite

@[simp] theorem emit_cfg (s : S) (e : Ev) : (s.emit e).cfg = s.cfg := rfl
@[simp] theorem emit_lastMid (s : S) (e : Ev) : (s.emit e).lastMid = s.lastMid := rfl
@[simp] theorem emit_proto (s : S) (e : Ev) : (s.emit e).proto = s.proto := rfl
@[simp] theorem emit_out (s : S) (e : Ev) : (s.emit e).out = s.out := rfl
@[simp] theorem emit_inflight (s : S) (e : Ev) : (s.emit e).inflight = s.inflight := rfl
@[simp] theorem emit_fc (s : S) (e : Ev) : (s.emit e).firstConnect = s.firstConnect := rfl
@[simp] theorem emit_infos (s : S) (e : Ev) : (s.emit e).infos = s.infos := rfl
@[simp] theorem emit_log (s : S) (e : Ev) : (s.emit e).log = s.log ++ [e] := rfl
@[simp] theorem emit_sock (s : S) (e : Ev) : (s.emit e).sock = s.sock := rfl

@[simp] theorem loopRcHandle_fr (s : S) (r) : Fr s (s.loopRcHandle r).1 :=
  frame.loopRcHandle lowEv_not_q r (frame.refl s)

@[simp] theorem loopWrite_fr (s : S) : Fr s s.loopWrite.1 := frame.loopWrite lowEv_not_q (frame.refl s)

@[simp] theorem packetQueue_fr (s : S) (pkt d) : Fr s (s.packetQueue pkt d).1 :=
  frame.packetQueue lowEv_not_q pkt d (frame.refl s)

@[simp] theorem sendCmdMid_fr (s : S) (c m d) : Fr s (s.sendCmdMid c m d).1 :=
  frame.sendCmdMid lowEv_not_q c m d (frame.refl s)

@[simp] theorem sendPubrel_fr (s : S) (m d) : Fr s (s.sendPubrel m d).1 :=
  frame.sendPubrel lowEv_not_q (fun _ _ _ => rfl) m d (frame.refl s)

@[simp] theorem handlePublish_fr (s : S) (m) : Fr s (s.handlePublish m).1 :=
  frame.handlePublish lowEv_not_q (fun _ => rfl) m (frame.refl s)

@[simp] theorem handlePubrel_fr (s : S) (m) : Fr s (s.handlePubrel m).1 :=
  frame.handlePubrel lowEv_not_q (fun _ => rfl) m (frame.refl s)

@[simp] theorem handleDisconnect_fr (s : S) (r) : Fr s (s.handleDisconnect r).1 :=
  frame.handleDisconnect lowEv_not_q r (frame.refl s)

@[simp] theorem loopMisc_fr (s : S) : Fr s s.loopMisc.1 := frame.loopMisc lowEv_not_q (frame.refl s)

@[simp] theorem connectAsync_fr (s : S) : Fr s s.connectAsync := frame.connectAsync lowEv_not_q (frame.refl s)

@[simp] theorem messagesReconnectResetIn_fr (s : S) : Fr s s.messagesReconnectResetIn :=
  frame.messagesReconnectResetIn (frame.refl s)

/-- `_send_publish` leaves the session data alone, whatever it emits -/
@[simp] theorem sendPublish_same (s : S) (mid t p q r d i dir u) :
    FrP (fun _ => true) s (s.sendPublish mid t p q r d i dir u).1 :=
  (frameP _).sendPublish (fun _ _ => rfl) mid t p q r d i dir u (fun _ _ _ => rfl) ((frameP _).refl s)

theorem sendPublish_noconn (s : S) (hs : s.sock = none) (mid t p q r d i dir u) :
    s.sendPublish mid t p q r d i dir u = (s, rcNoConn) := by
  unfold sendPublish; simp [hs]

/-- what `_packet_write` and its callers up to `_send_publish` return; not QUEUE_SIZE, which `publish()` reports itself -/
def rcW (r : RC) : Prop := r = rcSuccess ∨ r = rcAgain ∨ r = rcNoConn ∨ r = rcConnLost

theorem rcW.ne_queueSize {r : RC} (h : rcW r) : r ≠ rcQueueSize := by
  rcases h with h | h | h | h <;> rw [h] <;> decide

theorem packetWrite_rc (fuel : Nat) (s : S) : rcW (s.packetWrite fuel).2 := by
  induction fuel generalizing s with
  | zero => exact Or.inl rfl
  | succ n ih =>
    unfold packetWrite
    split
    · exact Or.inl rfl
    · extract_lets s0 data
      split
      split
      · exact Or.inr (Or.inl rfl)
      · exact Or.inr (Or.inr (Or.inr rfl))
      · extract_lets k s2 pkt1 s4 s3 s5 s6 s7 s8
        split
        · split
          · split
            · exact Or.inl rfl
            · exact ih _
          · exact ih _
        · exact Or.inl rfl

theorem loopRcHandle_rc (s : S) {r : RC} (h : rcW r) : rcW (s.loopRcHandle r).2 := by
  unfold loopRcHandle
  split
  · split
    · exact h
    · dsimp only
      split
      · exact Or.inl rfl
      · exact h
  · exact h

theorem loopWrite_rc (s : S) : rcW s.loopWrite.2 := by
  unfold loopWrite
  split
  · exact Or.inr (Or.inr (Or.inl rfl))
  · dsimp only
    split
    · exact Or.inl rfl
    · split
      · exact loopRcHandle_rc _ (packetWrite_rc ..)
      · exact Or.inl rfl

theorem packetQueue_rc (s : S) (pkt d) : rcW (s.packetQueue pkt d).2 := by
  unfold packetQueue
  extract_lets s1 s2
  split
  · exact loopWrite_rc _
  · exact Or.inl rfl

theorem sendPublish_rc (s : S) (mid t p q r d i dir u) : rcW (s.sendPublish mid t p q r d i dir u).2 := by
  unfold sendPublish
  split
  · exact Or.inr (Or.inr (Or.inl rfl))
  · split
    · exact Or.inl rfl
    · exact packetQueue_rc ..

end Paho.FlowLemmas
