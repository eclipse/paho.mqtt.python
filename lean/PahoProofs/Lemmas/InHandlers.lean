/- Frames (log extension, `inm`) of the packet handlers and the API calls of the session model, for C03. -/
import PahoProofs.Lemmas.InBasic
import PahoProofs.Lemmas.InBytes
import PahoProofs.Properties.C19
namespace Paho.InLemmas
open Paho Paho.S
open Paho.SessFrame (ite_state ite_fst)

/-- `B` admits what the client queues on its own (all but PUBACK / PUBCOMP); `Q` restricts the QoS of outgoing
PUBLISH packets -/
structure Good (B : Bytes → Prop) (Q : Nat → Prop) : Prop where
  pub : ∀ proto mid topic payload qos retain dup bytes, Q qos →
    encPublish proto mid topic payload qos retain dup none = .ok bytes → B bytes
  prec : ∀ (mid : Int) bytes, encCmdMid 0x50 mid false = .ok bytes → B bytes
  prel : ∀ (mid : Int) bytes, encCmdMid 0x62 mid false = .ok bytes → B bytes
  pingreq : B (encSimple 0xC0)
  pingresp : B (encSimple 0xD0)
  conn : ∀ a bytes, a.will = none → a.username = none → encConnect a = .ok bytes → B bytes
  sub : ∀ proto mid ts bytes, encSubscribe proto mid ts none = .ok bytes → B bytes
  unsub : ∀ proto mid ts bytes, encUnsubscribe proto mid ts none = .ok bytes → B bytes
  disc : ∀ proto bytes, encDisconnect proto none none = .ok bytes → B bytes
  q : ∀ n, n ≤ 2 → Q n

def Acks (B : Bytes → Prop) : Prop := ∀ (cmd mid : Nat) b, encCmdMid cmd mid false = .ok b → B b

variable {P : Ev → Prop} {a b : S} {e : Ev} {B : Bytes → Prop} {Q : Nat → Prop} {k : Prop} {s0 s : S}

theorem good_true (hQ : ∀ n, n ≤ 2 → Q n) : Good (fun _ => True) Q := by
  refine ⟨?_, ?_, ?_, ?_, ?_, ?_, ?_, ?_, ?_, hQ⟩ <;> intros <;> trivial

theorem notAck_of_head {b : Bytes} {x : UInt8} (h : b.head? = some x)
    (hx : some x ≠ some 0x40 ∧ some x ≠ some 0x70 := by decide) : NotAck b := by
  unfold NotAck
  rw [h]
  exact hx

theorem good_notAck : Good NotAck (· ≤ 2) where
  pub _ _ _ _ qos retain dup _ hq h :=
    -- first byte of a PUBLISH: 0x30 ||| flags, with flags < 16 while the QoS is at most 2
    have key : ∀ (dup retain : Bool) (q : Nat), q < 3 →
        some (b8 (0x30 ||| ((boolBit dup &&& 0x1) <<< 3) ||| (q <<< 1) ||| boolBit retain)) ≠ some 0x40 ∧
        some (b8 (0x30 ||| ((boolBit dup &&& 0x1) <<< 3) ||| (q <<< 1) ||| boolBit retain)) ≠ some 0x70 := by decide
    notAck_of_head (encPublish_head h) (key dup retain qos (Nat.lt_succ_of_le hq))
  prec _ _ h := notAck_of_head (encCmdMid_head h)
  prel _ _ h := notAck_of_head (encCmdMid_head h)
  pingreq := notAck_of_head (x := b8 0xC0) rfl
  pingresp := notAck_of_head (x := b8 0xD0) rfl
  conn _ _ hw hu h := notAck_of_head (encConnect_head hw hu h)
  sub _ _ _ _ h := notAck_of_head (encSubscribe_head h)
  unsub _ _ _ _ h := notAck_of_head (encUnsubscribe_head h)
  disc _ _ h := notAck_of_head (encDisconnect_head h)
  q _ h := h

section exact
variable {q : List OutPkt} {r : Option Nat} {t : Bytes} {mid qos : Nat} (h : Fr (PB B k) s0 s)
include h

theorem failQueuedQos0_fr : Fr (PB B k) s0 (s.failQueuedQos0 q) := by
  induction q generalizing s with
  | nil => exact h
  | cons p rest ih =>
    unfold failQueuedQos0
    refine ih (ite_state ?_ h)
    split
    · exact Fr.emit (setInfo_fr h) trivial
    · exact h

theorem connectAsync_fr : Fr (PB B k) s0 s.connectAsync :=
  Fr.upd (sockClose_fr h) rfl rfl rfl

theorem handleDisconnect_fr : Fr (PB B k) s0 (s.handleDisconnect r).1 := by
  unfold handleDisconnect
  extract_lets bad s1
  clear_value bad
  have h1 : Fr (PB B k) s0 s1 := sockClose_fr h
  split
  · exact h
  · exact Fr.emit (ite_state (Fr.upd h1 rfl rfl rfl) (Fr.upd h1 rfl rfl rfl)) trivial

theorem checkKeepalive_fr (g : Good B Q) : Fr (PB B k) s0 s.checkKeepalive := by
  unfold checkKeepalive
  refine ite_state h ?_
  split
  · exact h
  · refine ite_state (ite_state ?_ (ite_state (closeWith_fr h) (closeWith_fr h))) h
    split
    rename_i s1 rc heq
    have h1 : Fr (PB B k) s0 s1 := of_eq heq (packetQueue_fr h g.pingreq)
    extract_lets s2
    have h2 : Fr (PB B k) s0 s2 := ite_state (Fr.upd h1 rfl rfl rfl) h1
    exact Fr.upd h2 rfl rfl rfl

theorem loopMisc_fr (g : Good B Q) : Fr (PB B k) s0 s.loopMisc.1 := by
  unfold loopMisc
  split
  · exact h
  · extract_lets s1 s2
    have h1 : Fr (PB B k) s0 s1 := checkKeepalive_fr h g
    split
    · exact h1
    · refine ite_fst ?_ h1
      have h2 : Fr (PB B k) s0 s2 := sockClose_fr h1
      split
      rename_i s3 rc heq
      exact Fr.emit (of_eq heq (ite_fst (Fr.upd h2 rfl rfl rfl) (Fr.upd h2 rfl rfl rfl))) trivial

theorem subscribe_fr (g : Good B Q) : Fr (PB B k) s0 (s.subscribe t qos) := by
  unfold subscribe
  refine ite_state (h.emit trivial) (ite_state (h.emit trivial) (ite_state (h.emit trivial) ?_))
  split
  · exact h.emit trivial
  · extract_lets mid s1
    split
    · exact Fr.emit (Fr.upd h rfl rfl rfl) trivial
    · exact Fr.emit (packetQueue_fr (Fr.upd h rfl rfl rfl) (g.sub _ _ _ _ ‹_›)) trivial

theorem unsubscribe_fr (g : Good B Q) : Fr (PB B k) s0 (s.unsubscribe t) := by
  unfold unsubscribe
  refine ite_state (h.emit trivial) ?_
  split
  · exact h.emit trivial
  · extract_lets mid s1
    split
    · exact Fr.emit (Fr.upd h rfl rfl rfl) trivial
    · exact Fr.emit (packetQueue_fr (Fr.upd h rfl rfl rfl) (g.unsub _ _ _ _ ‹_›)) trivial

theorem disconnect_fr (g : Good B Q) : Fr (PB B k) s0 s.disconnect := by
  unfold disconnect
  split
  · exact Fr.emit (Fr.upd h rfl rfl rfl) trivial
  · extract_lets s1
    split
    · exact Fr.emit (Fr.upd h rfl rfl rfl) trivial
    · exact Fr.emit (packetQueue_fr (Fr.upd h rfl rfl rfl) (g.disc _ _ ‹_›)) trivial

theorem ack_fr (hb : s.cfg.manualAck = true → Acks B) : Fr (PB B k) s0 (s.ack mid qos) := by
  unfold ack
  by_cases hm : s.cfg.manualAck = true
  · rw [if_pos hm]
    exact ite_state (Fr.emit (sendCmdMid_fr h (hb hm _ _)) trivial)
      (ite_state (Fr.emit (sendCmdMid_fr h (hb hm _ _)) trivial) (h.emit trivial))
  · rw [if_neg hm]
    exact h.emit trivial

end exact

def OutQ (Q : Nat → Prop) (l : List OutMsg) : Prop := ∀ m ∈ l, Q m.qos

/-- `OutQ (· ≤ 2)`, the instance that `good_notAck` needs -/
def QosOk (l : List OutMsg) : Prop := ∀ m ∈ l, m.qos ≤ 2

theorem OutQ.filter {l : List OutMsg} (h : OutQ Q l) (p : OutMsg → Bool) : OutQ Q (l.filter p) :=
  fun m hm => h m (List.mem_filter.mp hm).1

theorem OutQ.map {l : List OutMsg} (h : OutQ Q l) (f : OutMsg → OutMsg) (hf : ∀ x, (f x).qos = x.qos) :
    OutQ Q (l.map f) :=
  List.forall_mem_map.mpr fun x hx => hf x ▸ h x hx

theorem OutQ.set {l : List OutMsg} (h : OutQ Q l) (i : Nat) (m : OutMsg) (hm : Q m.qos) : OutQ Q (l.set i m) :=
  fun x hx => (List.mem_or_eq_of_mem_set hx).elim (h x) fun hx => hx ▸ hm

theorem OutQ.append {l : List OutMsg} (h : OutQ Q l) (m : OutMsg) (hm : Q m.qos) : OutQ Q (l ++ [m]) :=
  List.forall_mem_append.mpr ⟨h, List.forall_mem_singleton.mpr hm⟩

theorem QosOk.filter {l : List OutMsg} (h : QosOk l) (p : OutMsg → Bool) : QosOk (l.filter p) :=
  OutQ.filter (Q := (· ≤ 2)) h p

theorem QosOk.append {l : List OutMsg} (h : QosOk l) (m : OutMsg) (hm : m.qos ≤ 2) : QosOk (l ++ [m]) :=
  OutQ.append (Q := (· ≤ 2)) h m hm

/-- the dictionary assignment `self._in_messages[m.mid] = m`: replace in place or append -/
def storeIn (l : List InMsg) (m : InMsg) : List InMsg :=
  if l.any (·.mid = m.mid) then l.map (fun x => if x.mid = m.mid then m else x) else l ++ [m]

/-- all that ever happens to the store of half-received messages -/
inductive InmTo : List InMsg → List InMsg → Prop
  | refl (l) : InmTo l l
  | filter {l l'} (p : InMsg → Bool) : InmTo l l' → InmTo l (l'.filter p)
  | store {l l'} (m : InMsg) : m.qos = 2 → InmTo l l' → InmTo l (storeIn l' m)

/-- the QoS condition is on the target state, so a handler lemma `Fw P Q s0 s → Fw P Q s0 (f s)` may use that
of `s` -/
structure Fw (P : Ev → Prop) (Q : Nat → Prop) (s s' : S) : Prop where
  inm : InmTo s.inm s'.inm
  lg : Lg P s s'
  oq : OutQ Q s'.out

theorem Fw.refl (hq : OutQ Q a.out) : Fw P Q a a := ⟨.refl _, Lg.refl, hq⟩

/-- the exact frame comes first: unification reads its source `b` off the goal, and `h1`, often a record update
closed by `rfl`, can only be checked once `b` is known -/
theorem Fw.fr {c : S} (h2 : Fr P b c) (h1 : Fw P Q a b) : Fw P Q a c :=
  ⟨h2.inm ▸ h1.inm, h1.lg.trans h2.lg, h2.out ▸ h1.oq⟩

theorem Fw.emit (h : Fw P Q a b) (he : P e) : Fw P Q a (b.emit e) := Fw.fr (Fr.emit Fr.refl he) h

theorem Fw.upd {b' : S} (h : Fw P Q a b) (hi : b'.inm = b.inm) (ho : b'.out = b.out) (hl : b'.log = b.log) :
    Fw P Q a b' := Fw.fr (Fr.upd Fr.refl hi ho hl) h

theorem Fw.upd_out {b' : S} (h : Fw P Q a b) (hi : b'.inm = b.inm) (hl : b'.log = b.log)
    (ho : OutQ Q b'.out) : Fw P Q a b' :=
  ⟨hi ▸ h.inm, h.lg.upd hl, ho⟩

theorem Fw.upd_inm {b' : S} (h : Fw P Q a b) (hi : InmTo a.inm b'.inm) (ho : b'.out = b.out)
    (hl : b'.log = b.log) : Fw P Q a b' :=
  ⟨hi, h.lg.upd hl, ho ▸ h.oq⟩

/-- `_handle_on_message`: `raiseOnMessage` counts the exceptions still to be raised (`0 - 1 = 0`) -/
theorem handleOnMessage_eq (m : InMsg) : s.handleOnMessage m =
    ({ s with log := s.log ++ [.onMessage m], raiseOnMessage := s.raiseOnMessage - 1 },
      decide (s.raiseOnMessage > 0) && !s.cfg.suppress) := by
  unfold handleOnMessage
  by_cases h : s.raiseOnMessage > 0
  · simp only [emit, h, if_pos, decide_true, Bool.true_and]
  · have h0 : s.raiseOnMessage = 0 := by omega
    simp only [emit, h0, Nat.lt_irrefl, if_false, decide_false, Bool.false_and]

theorem handleOnMessage_proto (m : InMsg) : (s.handleOnMessage m).1.proto = s.proto := by
  rw [handleOnMessage_eq]

theorem handleOnMessage_cfg' (m : InMsg) : (s.handleOnMessage m).1.cfg = s.cfg := by
  rw [handleOnMessage_eq]

section weak
variable {fuel idx mid qos result : Nat} {rc : RC} {ok sp retain dup direct : Bool} {topic payload : Bytes}
  {info uid : Option Nat} {m : InMsg} {i : Nat} {f : Info → Info} (h : Fw (PB B k) Q s0 s)
include h

theorem sendPublish_fw (g : Good B Q) (hq : Q qos) :
    Fw (PB B k) Q s0 (s.sendPublish mid topic payload qos retain dup info direct uid).1 :=
  Fw.fr (sendPublish_fr Fr.refl fun _ hb => g.pub _ _ _ _ _ _ _ _ hq hb) h

theorem setInfo_emit_fw (he : PB B k e) : Fw (PB B k) Q s0 ((s.setInfo i f).emit e) :=
  Fw.emit (Fw.upd h rfl rfl rfl) he

theorem updateInflight_fw (g : Good B Q) : Fw (PB B k) Q s0 (s.updateInflight fuel idx).1 := by
  induction fuel generalizing s idx with
  | zero => exact h
  | succ n ih =>
    unfold updateInflight
    split
    · exact h
    · rename_i m hm
      have hmq : Q m.qos := h.oq m (List.mem_of_getElem? hm)
      refine ite_fst h (ite_fst (ite_fst ?_ (ih h)) h)
      extract_lets m' s1
      have h1 : Fw (PB B k) Q s0 s1 := Fw.upd_out h rfl rfl (h.oq.set idx m' hmq)
      split
      rename_i s2 rc heq
      have h2 : Fw (PB B k) Q s0 s2 := of_eq heq (sendPublish_fw h1 g hmq)
      exact ite_fst h2 (ih h2)

theorem doOnPublish_fw (g : Good B Q) : Fw (PB B k) Q s0 (s.doOnPublish mid).1 := by
  unfold doOnPublish
  extract_lets s1
  have h1 : Fw (PB B k) Q s0 s1 := h.emit trivial
  split
  · exact h1.emit trivial
  · extract_lets s2 s3 s4 s5
    have h2 : Fw (PB B k) Q s0 s2 := h1.emit trivial
    have h3 : Fw (PB B k) Q s0 s3 := Fw.upd_out h2 rfl rfl (h2.oq.filter _)
    have h4 : Fw (PB B k) Q s0 s4 := setInfo_emit_fw h3 trivial
    have h5 : Fw (PB B k) Q s0 s5 := Fw.upd h4 rfl rfl rfl
    refine ite_fst (ite_fst ?_ h5) h4
    split
    rename_i s6 rc heq
    have h6 : Fw (PB B k) Q s0 s6 := of_eq heq (updateInflight_fw h5 g)
    exact ite_fst h6 h6

theorem handlePubackcomp_fw (g : Good B Q) : Fw (PB B k) Q s0 (s.handlePubackcomp mid).1 :=
  ite_fst (doOnPublish_fw h g) h

theorem handlePubrec_fw (g : Good B Q) : Fw (PB B k) Q s0 (s.handlePubrec mid).1 := by
  refine ite_fst (Fw.fr (sendPubrel_fr Fr.refl (g.prel _)) (Fw.upd_out h rfl rfl (h.oq.map _ ?_))) h
  intro x
  split <;> rfl

theorem connackResend_fw (g : Good B Q) : Fw (PB B k) Q s0 (s.connackResend fuel idx rc).1 := by
  induction fuel generalizing s idx rc with
  | zero => exact h
  | succ n ih =>
    unfold connackResend
    split
    · exact h
    · rename_i m hm
      have hmq : Q m.qos := h.oq m (List.mem_of_getElem? hm)
      refine ite_fst h (ite_fst (Fw.fr (loopWrite_fr Fr.refl) h) ?_)
      have hset : ∀ st, Fw (PB B k) Q s0
          { s with inflight := s.inflight + 1, out := s.out.set idx { m with state := st } } :=
        fun st => Fw.upd_out h rfl rfl (h.oq.set idx _ hmq)
      split
      rename_i s2 rc2 stop heq
      have h2 : Fw (PB B k) Q s0 s2 := of_eq heq (ite_fst (sendPublish_fw (hset _) g hmq)
        (ite_fst (sendPublish_fw (hset _) g hmq) (ite_fst (Fw.fr (sendPubrel_fr Fr.refl (g.prel _)) (hset _)) h)))
      exact ite_fst h2 (ih (Fw.fr (loopWrite_fr Fr.refl) h2))

theorem messagesReconnectResetOut_fw : Fw (PB B k) Q s0 s.messagesReconnectResetOut :=
  h.upd_out rfl rfl (h.oq.map _ (resetOutMsg_qos _))

theorem messagesReconnectResetIn_fw : Fw (PB B k) Q s0 s.messagesReconnectResetIn :=
  ite_state (h.upd_inm ((by simp : s.inm.filter (fun _ => false) = []) ▸ h.inm.filter _) rfl rfl) (h.upd_inm (h.inm.filter _) rfl rfl)

theorem reconnect_fw (g : Good B Q) : Fw (PB B k) Q s0 (s.reconnect ok).1 := by
  unfold reconnect
  refine ite_fst h ?_
  extract_lets s1 s2 s3 s4 s5 s6 c s7 s8 s9
  have h3 : Fw (PB B k) Q s0 s3 := Fw.fr (failQueuedQos0_fr (sockClose_fr Fr.refl)) (Fw.upd h rfl rfl rfl)
  have h6 : Fw (PB B k) Q s0 s6 :=
    Fw.emit (messagesReconnectResetIn_fw (messagesReconnectResetOut_fw (Fw.upd h3 rfl rfl rfl))) trivial
  refine ite_fst h6 ?_
  -- with the value of `s6` known, `rfl : s7.inm = s6.inm` first tries `s7 = s6` and unfolds both (slow)
  clear_value s6
  have h8 : Fw (PB B k) Q s0 s8 := Fw.emit (Fw.upd h6 rfl rfl rfl) trivial
  have h9 : Fw (PB B k) Q s0 s9 := ite_state (ite_state (h8.emit trivial) (h8.emit trivial)) h8
  exact Fw.fr (sendConnect_fr Fr.refl g.conn) h9

theorem connect_fw (g : Good B Q) : Fw (PB B k) Q s0 (s.connect ok).1 :=
  reconnect_fw (Fw.fr (connectAsync_fr Fr.refl) (ite_state (Fw.upd h rfl rfl rfl) h)) g

theorem handleConnack_fw (g : Good B Q) : Fw (PB B k) Q s0 (s.handleConnack sp result ok).1 := by
  unfold handleConnack
  extract_lets pre s1 s2 shown s3
  clear_value pre
  split
  · exact h
  · refine ite_fst (ite_fst h ?_) ?_
    · have hr := reconnect_fw (ok := ok) (Fw.upd h rfl rfl rfl : Fw (PB B k) Q s0 s1) g
      split
      · rename_i heq
        rw [heq] at hr
        exact hr.emit trivial
      · exact hr
    · have h3 : Fw (PB B k) Q s0 s3 := Fw.emit (ite_state (Fw.upd h rfl rfl rfl) h) trivial
      exact ite_fst (connackResend_fw h3 g) (ite_fst h3 h3)

theorem handlePublish_fw (hk : k) (hprec : ∀ (mid : Int) b, encCmdMid 0x50 mid false = .ok b → B b)
    (hb : s.cfg.manualAck = false → Acks B) : Fw (PB B k) Q s0 (s.handlePublish m).1 := by
  unfold handlePublish
  extract_lets m'
  have hom : Fw (PB B k) Q s0 (s.handleOnMessage m').1 := Fw.fr (handleOnMessage_fr Fr.refl hk) h
  refine ite_fst h (ite_fst ?_ (ite_fst ?_ ?_))
  · split
    rename_i s1 raised heq
    have h1 := of_eq heq hom
    exact ite_fst h1 h1
  · split
    rename_i s1 raised heq
    have h1 := of_eq heq hom
    have hc : s1.cfg = s.cfg := (congrArg (·.1.cfg) heq).symm.trans (handleOnMessage_cfg' m')
    refine ite_fst h1 ?_
    by_cases hm : s1.cfg.manualAck = true
    · rw [if_pos hm]; exact h1
    · rw [if_neg hm]
      exact Fw.fr (sendCmdMid_fr Fr.refl (hb (by rw [← hc]; simpa using hm) _ _)) h1
  · by_cases h2 : m'.qos = 2
    · rw [if_pos h2]
      split
      rename_i s1 rc heq
      have h1 : Fw (PB B k) Q s0 s1 := of_eq heq (Fw.fr (sendCmdMid_fr Fr.refl (hprec _)) h)
      exact h1.upd_inm (h1.inm.store m' h2) rfl rfl
    · rw [if_neg h2]; exact h

theorem handlePubrel_fw (hk : k) (hb : s.cfg.manualAck = false → Acks B) :
    Fw (PB B k) Q s0 (s.handlePubrel mid).1 := by
  unfold handlePubrel
  split
  rename_i s1 raised hp
  have h1 : Fw (PB B k) Q s0 s1 ∧ s1.cfg = s.cfg := by
    split at hp
    · obtain rfl : s1 = _ := (congrArg Prod.fst hp).symm
      exact ⟨Fw.fr (handleOnMessage_fr Fr.refl hk) (h.upd_inm (h.inm.filter _) rfl rfl), handleOnMessage_cfg' _⟩
    · cases hp; exact ⟨h, rfl⟩
  refine ite_fst h1.1 ?_
  by_cases hm : s1.cfg.manualAck = true
  · rw [if_pos hm]; exact h1.1
  · rw [if_neg hm]
    exact Fw.fr (sendCmdMid_fr Fr.refl (hb (by rw [← h1.2]; simpa using hm) _ _)) h1.1

theorem publish_fw (g : Good B Q) : Fw (PB B k) Q s0 (s.publish qos topic payload retain) := by
  unfold publish
  split
  · exact h.emit trivial
  · exact h.emit trivial
  · rename_i hchk
    have hq : Q qos := g.q _ (Int.ofNat_le.1 (publishCheckFull_none hchk).2.2.1)
    extract_lets mid s1 infoIdx s2 m m' s3 s4
    have h2 : Fw (PB B k) Q s0 s2 := Fw.upd h rfl rfl rfl
    refine ite_state ?_ (ite_state (setInfo_emit_fw h2 trivial) (ite_state (setInfo_emit_fw h2 trivial)
      (ite_state ?_ (setInfo_emit_fw (Fw.upd_out h2 rfl rfl (h2.oq.append _ hq)) trivial))))
    · split
      rename_i s5 rc heq
      exact setInfo_emit_fw (of_eq heq (sendPublish_fw h2 g (g.q 0 (Nat.zero_le 2)))) trivial
    split
    rename_i s5 rc heq
    have h5 : Fw (PB B k) Q s0 s5 :=
      of_eq heq (sendPublish_fw (Fw.upd_out h2 rfl rfl (h2.oq.append m' hq)) g hq)
    refine setInfo_emit_fw (ite_state (Fw.upd_out h5 rfl rfl (h5.oq.map _ ?_)) h5) trivial
    intro x
    split <;> rfl

end weak

/-- the steps in which `on_message` may be called -/
def Delivers (op : Op) : Prop :=
  (∃ m ok, op = .rx (.pkt (.publish m)) ok) ∨ ∃ mid ok, op = .rx (.pkt (.pubrel mid)) ok

theorem packetHandle_fw (g : Good B Q) (p : RxPkt) (ok : Bool) (hb : s.cfg.manualAck = false → Acks B)
    (h : Fw (PB B (Delivers (.rx (.pkt p) ok))) Q s0 s) :
    Fw (PB B (Delivers (.rx (.pkt p) ok))) Q s0 (s.packetHandle p ok).1 := by
  cases p with
  | connack sp rc => exact handleConnack_fw h g
  | publish m => exact handlePublish_fw h (.inl ⟨m, ok, rfl⟩) g.prec hb
  | puback mid | pubcomp mid => exact handlePubackcomp_fw h g
  | pubrec mid => exact handlePubrec_fw h g
  | pubrel mid => exact handlePubrel_fw h (.inr ⟨mid, ok, rfl⟩) hb
  | suback mid code | unsuback mid => exact h.emit trivial
  | pingreq => exact Fw.fr (packetQueue_fr Fr.refl g.pingresp) h
  | pingresp => exact Fw.upd h rfl rfl rfl
  | disconnect r => exact ite_fst (Fw.fr (handleDisconnect_fr Fr.refl) h) h
  | badcmd | malformed => exact h

/-- after the packet handler `loop_read` at most closes the socket -/
theorem loopRead_tail (p : RxPkt) (ok : Bool) {c : Nat} (hs : s.sock = some c) :
    Fr (PB B k) (s.packetHandle p ok).1 (s.loopRead (.pkt p) ok).1 := by
  unfold loopRead
  rw [hs]
  simp only
  generalize s.packetHandle p ok = r
  obtain ⟨s1, hr⟩ := r
  cases hr with
  | raised n => exact Fr.refl
  | rc rc =>
    dsimp only
    have h2 : Fr (PB B k) s1 { s1 with lastIn := s1.now } := Fr.upd Fr.refl rfl rfl rfl
    refine ite_fst (loopRcHandle_fr h2) (ite_fst h2 ?_)
    split <;> exact h2

theorem loopRead_none (item : RxItem) (ok : Bool) (hs : s.sock = none) : (s.loopRead item ok).1 = s := by
  unfold loopRead
  rw [hs]

theorem loopRead_fw (g : Good B Q) (item : RxItem) (ok : Bool) (hb : s.cfg.manualAck = false → Acks B)
    (h : Fw (PB B (Delivers (.rx item ok))) Q s0 s) :
    Fw (PB B (Delivers (.rx item ok))) Q s0 (s.loopRead item ok).1 := by
  rcases hs : s.sock with _ | c
  · rw [loopRead_none item ok hs]; exact h
  · cases item with
    | pkt p => exact Fw.fr (loopRead_tail p ok hs) (packetHandle_fw g p ok hb h)
    | eof | err => simp only [loopRead, hs]; exact Fw.fr (loopRcHandle_fr Fr.refl) h
    | none => simp only [loopRead, hs]; exact h

theorem PB_hresEv (r : HRes) : PB B k (hresEv r) := by cases r <;> trivial

/-- `B` must allow acknowledgements where the client sends them: on its own with manual_ack off, in `ack()` -/
theorem step_fw (g : Good B Q) (hq : OutQ Q s.out) (op : Op)
    (hb : (s.cfg.manualAck = false ∨ ∃ m q, op = .ack m q) → Acks B) :
    Fw (PB B (Delivers op)) Q s (s.step op) := by
  have h0 : Fw (PB B (Delivers op)) Q s s := Fw.refl hq
  cases op with
  | connect ok => exact Fw.emit (connect_fw h0 g) (PB_hresEv _)
  | reconnect ok => exact Fw.emit (reconnect_fw h0 g) (PB_hresEv _)
  | connectAsync => exact Fw.fr (connectAsync_fr Fr.refl) h0
  | rx item ok => exact Fw.emit (loopRead_fw g item ok (fun hm => hb (.inl hm)) h0) (PB_hresEv _)
  | publish q t p r => exact publish_fw h0 g
  | subscribe t q => exact Fw.fr (subscribe_fr Fr.refl g) h0
  | unsubscribe t => exact Fw.fr (unsubscribe_fr Fr.refl g) h0
  | disconnect => exact Fw.fr (disconnect_fr Fr.refl g) h0
  | loopWrite => exact Fw.emit (Fw.fr (loopWrite_fr Fr.refl) h0) trivial
  | loopMisc => exact Fw.emit (Fw.fr (loopMisc_fr Fr.refl g) h0) trivial
  | tick ms | send sc | raiseOnMessage n => exact Fw.upd h0 rfl rfl rfl
  | ack m q => exact Fw.fr (ack_fr Fr.refl fun _ => hb (.inr ⟨m, q, rfl⟩)) h0

end Paho.InLemmas
