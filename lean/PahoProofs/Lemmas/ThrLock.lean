/-
C07, section C (lock order): the invariant of `LockSys`, and deadlock freedom from it.
-/
import PahoProofs.Lemmas.ThrUpd
namespace Paho.Thr
open Paho

theorem LockSys.free_iff (s : LockSys) (l : LockId) (t : Tid) :
    s.free l t = true ↔ ∀ u, u < s.n → u = t ∨ s.holders l u = false := by
  simp [LockSys.free]

def LockSys.init (n : Nat) : LockSys := { n := n }

structure LInv (n : Nat) (s : LockSys) : Prop where
  size : s.n = n
  mutex : ∀ l t u, t < n → u < n → s.holders l t = true → s.holders l u = true → t = u
  disc : ∀ t l, (s.thr t).want = some l → disciplined (s.thr t).held l = true
  fin : ∀ t, (s.thr t).done = true → (s.thr t).held = [] ∧ (s.thr t).want = none

theorem LInv.init (n : Nat) : LInv n (LockSys.init n) := by
  refine ⟨rfl, ?_, ?_, ?_⟩ <;> simp [LockSys.init, LockSys.holders]

variable {n : Nat} {s : LockSys}

/-- Only `t`'s record changes: every lock it then holds it held before or was free to take. -/
theorem LInv.upd (h : LInv n s) (t : Tid) {th' : LThread}
    (hheld : ∀ l, th'.held.contains l = true → (s.thr t).held.contains l = true ∨ s.free l t = true)
    (hdisc : ∀ l, th'.want = some l → disciplined th'.held l = true)
    (hfin : th'.done = true → th'.held = [] ∧ th'.want = none) :
    LInv n { s with thr := upd s.thr t th' } := by
  cases h.size
  -- `t` with its new record and another thread `b` share no lock
  have key : ∀ l b, t < s.n → b < s.n → b ≠ t → th'.held.contains l = true → s.holders l b = true → False := by
    intro l b ht hb hbt h1 h2
    rcases hheld l h1 with h1 | h1
    · exact hbt (h.mutex l b t hb ht h2 h1)
    · rcases (s.free_iff l t).1 h1 b hb with h3 | h3
      · exact hbt h3
      · rw [h2] at h3; cases h3
  refine ⟨rfl, fun l a b ha hb h1 h2 => ?_, fun x => ?_, fun x => ?_⟩
  · dsimp only [LockSys.holders, upd] at h1 h2
    split at h1 <;> split at h2
    · next hat hbt => rw [hat, hbt]
    · next hat hbt => exact (key l b (hat ▸ ha) hb hbt h1 h2).elim
    · next hat hbt => exact (key l a (hbt ▸ hb) ha hat h2 h1).elim
    · exact h.mutex l a b ha hb h1 h2
  · dsimp only [upd]
    split
    · exact hdisc
    · exact h.disc x
  · dsimp only [upd]
    split
    · exact hfin
    · exact h.fin x

theorem LInv.step {s' : LockSys} {t : Tid} {a : LAct} (h : LInv n s) (hs : s.step t a = some s') : LInv n s' := by
  have acquire : ∀ {l}, s.free l t = true → ∀ l', (l :: (s.thr t).held).contains l' = true →
      (s.thr t).held.contains l' = true ∨ s.free l' t = true := by
    intro l hfree l' hl
    rw [List.contains_cons, Bool.or_eq_true, beq_iff_eq] at hl
    rcases hl with rfl | hl
    · exact .inr hfree
    · exact .inl hl
  cases a <;> dsimp only [LockSys.step] at hs
  case request l =>
    obtain ⟨hc, rfl⟩ := Option.ite_some_none_eq_some.1 hs
    exact h.upd t (fun _ => .inl) (fun _ hw => Option.some.inj hw ▸ hc.2.2.2)
      (fun hd => absurd hd (by simpa using hc.2.1))
  case tryGrant l =>
    obtain ⟨hc, rfl⟩ := Option.ite_some_none_eq_some.1 hs
    exact h.upd t (acquire hc.2.2.2.1) (fun _ hw => nomatch hw.symm.trans (Option.isNone_iff_eq_none.1 hc.2.2.1))
      (fun hd => absurd hd (by simpa using hc.2.1))
  case grant =>
    split at hs
    · rename_i l hw
      obtain ⟨hc, rfl⟩ := Option.ite_some_none_eq_some.1 hs
      exact h.upd t (acquire hc.2.1) nofun (fun hd => absurd (h.fin t hd).2 (by simp [hw]))
    · cases hs
  case release =>
    split at hs
    · rename_i l rest hheld hw
      obtain ⟨-, rfl⟩ := Option.ite_some_none_eq_some.1 hs
      refine h.upd t (fun l' hl => .inl ?_) (fun _ hw' => absurd hw' (by simp [hw]))
        (fun hd => absurd (h.fin t hd).1 (by simp [hheld]))
      rw [hheld, List.contains_cons, hl, Bool.or_true]
    · cases hs
  case finish =>
    obtain ⟨hc, rfl⟩ := Option.ite_some_none_eq_some.1 hs
    exact h.upd t (fun _ => .inl) (fun _ hw => nomatch hw.symm.trans (Option.isNone_iff_eq_none.1 hc.2.2.1))
      (fun _ => ⟨by simpa using hc.2.2.2, by simpa using hc.2.2.1⟩)

theorem LInv.run (h : LInv n s) (sched : List (Tid × LAct)) : LInv n (s.run sched) :=
  run_inv (fun _ => rfl) (fun _ _ _ _ => rfl) sched (fun _ _ _ _ _ h => h.step) s h

theorem lookup_le_sum (xs : List (LockId × Nat)) (l : LockId) : (xs.lookup l).getD 0 ≤ (xs.map (·.2)).sum := by
  induction xs with
  | nil => simp
  | cons x xs ih =>
    obtain ⟨k, v⟩ := x
    simp only [List.lookup, List.map_cons, List.sum_cons]
    split
    · simp
    · omega

theorem disciplined_mem {held : List LockId} {l h : LockId} (hd : disciplined held l = true) (hm : h ∈ held) :
    rankOf h < rankOf l ∨ (h = l ∧ reentrant l = true) := by
  simp only [disciplined, List.all_eq_true] at hd
  have := hd h hm
  simpa using this

theorem LockSys.not_free {l : LockId} {t : Tid} (h : s.free l t = false) :
    ∃ u, u < s.n ∧ u ≠ t ∧ s.holders l u = true := by
  simpa [LockSys.free] using h

/-- If nobody can move, a thread waiting for `l` is blocked by a waiting thread that wants a lock of higher rank. No rank
exceeds the sum of all ranks (`lookup_le_sum`): induction on the room `k` left above `rankOf l`. -/
theorem blocked_chain (h : LInv n s) (hno : ∀ t, s.canMove t = false) :
    ∀ k t l, t < s.n → (s.thr t).done = false → (s.thr t).want = some l →
      (Gen.lockRank.map (·.2)).sum < rankOf l + k → False := by
  cases h.size
  intro k
  induction k with
  | zero =>
    intro t l _ _ _ hk
    have : rankOf l ≤ _ := lookup_le_sum Gen.lockRank l
    omega
  | succ k ih =>
    intro t l ht hnd hw hk
    have hcm := hno t
    simp only [LockSys.canMove, hw, hnd, decide_eq_true ht, Bool.not_false, Bool.and_self, Bool.true_and] at hcm
    -- by the discipline `t` holds `l` itself only if `l` is reentrant
    have hself : (reentrant l || !(s.thr t).held.contains l) = true := by
      cases hc : (s.thr t).held.contains l
      · simp
      · rcases disciplined_mem (h.disc t l hw) (by simpa using hc) with h1 | ⟨_, h1⟩
        · omega
        · simp [h1]
    rw [hself, Bool.and_true] at hcm
    -- so another thread `u` holds `l`; it waits too, for a lock above `l`
    obtain ⟨u, hu, hut, hhold⟩ := LockSys.not_free hcm
    have hm : l ∈ (s.thr u).held := by simpa [LockSys.holders] using hhold
    have hund : (s.thr u).done = false := by
      cases hd : (s.thr u).done
      · rfl
      · rw [(h.fin u hd).1] at hm; cases hm
    have hcu := hno u
    cases hwu : (s.thr u).want with
    | none => simp [LockSys.canMove, hwu, hund, hu] at hcu
    | some l' =>
      rcases disciplined_mem (h.disc u l' hwu) hm with h1 | ⟨rfl, h2⟩
      · exact ih u l' hu hund hwu (by omega)
      · -- `u` wants the reentrant `l` again, which nobody else holds (`mutex`): it can move
        have hfree : s.free l u = true := by
          rw [LockSys.free_iff]
          intro v hv
          by_cases hvu : v = u
          · exact .inl hvu
          · exact .inr (Bool.eq_false_iff.2 fun hh => hvu (h.mutex l v u hv hu hh hhold))
        simp [LockSys.canMove, hwu, hund, hu, hfree, h2] at hcu

theorem LInv.no_deadlock (h : LInv n s) (hex : ∃ t, t < n ∧ (s.thr t).done = false) :
    ∃ t, s.canMove t = true := by
  cases h.size
  apply Classical.byContradiction
  intro hne
  have hno : ∀ t, s.canMove t = false := fun t => Bool.eq_false_iff.2 fun hc => hne ⟨t, hc⟩
  obtain ⟨t, ht, hnd⟩ := hex
  cases hw : (s.thr t).want with
  | none =>
    have := hno t
    simp [LockSys.canMove, hw, hnd, ht] at this
  | some l =>
    exact blocked_chain h hno ((Gen.lockRank.map (·.2)).sum + 1) t l ht hnd hw (by omega)

theorem LockSys.canMove_enabled (s : LockSys) (t : Tid) (hc : s.canMove t = true) : ∃ a, (s.step t a).isSome = true := by
  simp only [LockSys.canMove, Bool.and_eq_true, decide_eq_true_eq, Bool.not_eq_true'] at hc
  obtain ⟨⟨ht, hnd⟩, hc⟩ := hc
  cases hw : (s.thr t).want with
  | none =>
    cases hh : (s.thr t).held with
    | nil =>
      refine ⟨.finish, ?_⟩
      simp [LockSys.step, ht, hnd, hw, hh]
    | cons l0 rest =>
      refine ⟨.release, ?_⟩
      simp [LockSys.step, ht, hw, hh]
  | some l =>
    refine ⟨.grant, ?_⟩
    rw [hw] at hc
    simp only [Bool.and_eq_true, Bool.or_eq_true] at hc
    simp only [LockSys.step, hw]
    rw [if_pos ⟨ht, hc.1, hc.2⟩]
    rfl

end Paho.Thr
