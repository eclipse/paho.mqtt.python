/-
`View` keeps the fields of `Paho.S` the C10/C16/C06 properties speak about. Every handler of the model is a
finite path of the atomic actions `Act` (`SessionRefine*.lean`); the invariants are proved once per action
(`SessionInv*.lean`).
-/
import Paho.Model.Session

namespace Paho
namespace SessAct

/-- the CONNECT packet of this configuration can be encoded -/
def cfgOk (c : Cfg) : Bool := decide (c.keepalive ≤ 65535) && decide (c.clientId.length ≤ 65535)

structure View where
  sock : Option Nat
  cstate : ConnState
  ackd : Bool
  discCalled : Bool
  regWrite : Bool
  outq : List OutPkt
  nconn : Nat
  ext : Bool
  inCb : Bool
  cfgOk : Bool
  log : List Ev

@[reducible] def view (s : S) : View :=
  { sock := s.sock, cstate := s.cstate, ackd := s.ackd, discCalled := s.discCalled,
    regWrite := s.regWrite, outq := s.outq, nconn := s.nconn, ext := s.cfg.ext, inCb := s.inCb,
    cfgOk := cfgOk s.cfg, log := s.log }

/-- events that none of the properties looks at -/
def neutral : Ev → Bool
  | .tx _ _ | .sopen _ | .sclose _ _ | .queued _ _ | .skOpen _ | .skClose _ | .skRegW _ | .skUnregW _
  | .onDisconnect _ _ => false
  | _ => true

def vEmit (v : View) (evs : List Ev) : View := { v with log := v.log ++ evs }

def vRegW (v : View) : View :=
  match v.sock with
  | none => v
  | some c =>
    if v.regWrite then v
    else { v with regWrite := true, log := v.log ++ (if v.ext then [Ev.skRegW c] else []) }

def vUnregW (v : View) : View :=
  match v.sock with
  | none => v
  | some c =>
    if v.regWrite then { v with regWrite := false, log := v.log ++ (if v.ext then [Ev.skUnregW c] else []) }
    else v

/-- events of `_sock_close` on the open socket `c` -/
def closeEvs (v : View) (c : Nat) (replaced : Bool) : List Ev :=
  (if v.regWrite && v.ext then [Ev.skUnregW c] else [])
  ++ (if v.ext then [if v.inCb then Ev.deadlock "_in_callback_mutex" else Ev.skClose c] else [])
  ++ [Ev.sclose c replaced]

def vSockClose (v : View) (replaced : Bool) : View :=
  match v.sock with
  | none => v
  | some c =>
    { v with sock := none, ackd := false, discCalled := false, regWrite := false,
             log := v.log ++ closeEvs v c replaced }

def vEnq (v : View) (pkt : OutPkt) : View :=
  { v with outq := v.outq ++ [pkt],
           log := v.log ++ (match v.sock with | some c => [Ev.queued c pkt.bytes] | none => []) }

/-- the transport accepts `k` more bytes of the head packet `pkt` -/
def vWrite (v : View) (pkt : OutPkt) (rest : List OutPkt) (k : Nat) : View :=
  { v with outq := (if pkt.pos + k = pkt.bytes.length then rest else { pkt with pos := pkt.pos + k } :: rest),
           log := v.log ++ (match v.sock with
                            | some c => [Ev.tx c ((pkt.bytes.drop pkt.pos).take k)]
                            | none => []) }

def dOD (v : View) : Bool := v.cstate = .disconnecting || v.cstate = .disconnected

/-- closed by the client, not as a replacement: `_sock_close`, state update, client-generated `on_disconnect`;
`n` is the (non-zero) error shown when disconnect() was not called -/
def vCloseLost (v : View) (n : Nat) : View :=
  let v1 := vSockClose v false
  { v1 with cstate := (if dOD v then .disconnected else .connectionLost),
            log := v1.log ++ [Ev.onDisconnect (if dOD v then 0 else n) false] }

/-- MQTT 5 DISCONNECT received from the broker -/
def vCloseBroker (v : View) (n : Nat) : View :=
  let v1 := vSockClose v false
  { v1 with cstate := (if dOD v then .disconnected else .connectionLost),
            log := v1.log ++ [Ev.onDisconnect n true] }

/-- the last `k` bytes of the DISCONNECT packet at the head of the queue are written: close -/
def vWriteDisc (v : View) (pkt : OutPkt) (rest : List OutPkt) (k : Nat) : View :=
  let v1 := vWrite v pkt rest k
  let v2 := vSockClose v1 false
  { v2 with cstate := (if v.cstate = .disconnecting then .disconnected else v.cstate),
            log := v2.log ++ [Ev.onDisconnect 0 false] }

def vCloseReplace (v : View) (x : ConnState) : View := vSockClose { v with cstate := x } true

/-- a new socket, and on the empty queue the CONNECT packet if it can be encoded -/
def vOpen (v : View) (pkt : Option OutPkt) : View :=
  let c := v.nconn + 1
  { v with sock := some c, nconn := c, regWrite := false, outq := pkt.toList,
           log := v.log ++ [Ev.sopen c]
             ++ (if v.ext then [if v.inCb then Ev.deadlock "_in_callback_mutex" else Ev.skOpen c] else [])
             ++ (match pkt with | some p => [Ev.queued c p.bytes] | none => [Ev.exc "encode"]) }

/-- a packet other than CONNECT as handed to `_packet_queue` -/
def Fresh (p : OutPkt) : Prop := p.pos = 0 ∧ p.bytes ≠ [] ∧ p.bytes.head? ≠ some 0x10

def IsConnectPkt (p : OutPkt) : Prop := p.pos = 0 ∧ p.command = 0x10 ∧ p.bytes.head? = some 0x10

def isDiscCmd (command : Nat) : Prop := command &&& 0xF0 = 0xE0

instance (c : Nat) : Decidable (isDiscCmd c) := by unfold isDiscCmd; infer_instance

/-- `quiet`: the socket stays as it is and no `on_disconnect` is logged. `loud`: needs an open socket, closes it
(not as a replacement) and logs `on_disconnect` exactly once. `reconn`: the steps of connect()/reconnect(): close
as replacement, clear the queue, open a new socket. `disc`: disconnect() marks the open connection as disconnecting. -/
inductive Kind where
  | quiet | loud | reconn | disc
  deriving DecidableEq, Repr

inductive Act : Kind → View → View → Prop
  | emit (v : View) (evs : List Ev) : (∀ e ∈ evs, neutral e = true) → Act .quiet v (vEmit v evs)
  | regW (v : View) : Act .quiet v (vRegW v)
  | unregW (v : View) : Act .quiet v (vUnregW v)
  | enq (v : View) (pkt : OutPkt) : Fresh pkt → (isDiscCmd pkt.command → v.discCalled = true) →
      Act .quiet v (vEnq v pkt)
  | write (v : View) (pkt : OutPkt) (rest : List OutPkt) (k : Nat) :
      v.outq = pkt :: rest → 0 < k → pkt.pos + k ≤ pkt.bytes.length → Act .quiet v (vWrite v pkt rest k)
  | setNoSock (v : View) (x : ConnState) : v.sock = none → x ≠ .connected → Act .quiet v { v with cstate := x }
  | connack (v : View) : v.sock.isSome = true →
      Act .quiet v { v with cstate := (if v.cstate = .disconnecting then .disconnecting else .connected), ackd := true }
  | writeDisc (v : View) (pkt : OutPkt) (rest : List OutPkt) (k : Nat) :
      v.sock.isSome = true → v.outq = pkt :: rest → 0 < k → pkt.pos + k = pkt.bytes.length → isDiscCmd pkt.command →
      Act .loud v (vWriteDisc v pkt rest k)
  | closeLost (v : View) (n : Nat) : v.sock.isSome = true → n ≠ 0 → Act .loud v (vCloseLost v n)
  | closeBroker (v : View) (n : Nat) : v.sock.isSome = true → Act .loud v (vCloseBroker v n)
  | closeReplace (v : View) (x : ConnState) : (x = .connecting ∨ x = .connectAsync) → Act .reconn v (vCloseReplace v x)
  | clearQ (v : View) : v.sock = none → Act .reconn v { v with outq := [] }
  | openConnect (v : View) (pkt : OutPkt) : v.sock = none → v.outq = [] → v.cstate = .connecting → IsConnectPkt pkt →
      Act .reconn v (vOpen v (some pkt))
  | openNoConnect (v : View) : v.sock = none → v.outq = [] → v.cstate = .connecting → v.cfgOk = false →
      Act .reconn v (vOpen v none)
  | setDisc (v : View) : v.sock.isSome = true → Act .disc v { v with cstate := .disconnecting, discCalled := true }

/-- connection number mentioned by a transport-level event (0 for the others) -/
def evConn : Ev → Nat
  | .tx c _ | .sopen c | .sclose c _ | .queued c _ | .skOpen c | .skClose c | .skRegW c | .skUnregW c => c
  | _ => 0

/-- the state invariants (no reference to the log); preserved by every action (`SessionInvState.lean`) -/
structure InvS (v : View) : Prop where
  conn : v.cstate = .connected → v.sock.isSome = true ∧ v.ackd = true
  disc : v.sock.isSome = true → ((v.cstate = .disconnecting ↔ v.discCalled = true) ∧ v.cstate ≠ .disconnected)
  noSock : v.sock = none → v.discCalled = false
  reg : v.regWrite = true → v.sock.isSome = true
  qpos : ∀ p ∈ v.outq, p.pos < p.bytes.length
  qtail : ∀ p ∈ v.outq.drop 1, p.pos = 0
  nconn : ∀ c, v.sock = some c → c ≤ v.nconn
  discq : v.sock.isSome = true → ∀ p ∈ v.outq, isDiscCmd p.command → v.discCalled = true
  inCb : v.inCb = false

inductive Path (P : Kind → Bool) : View → View → Prop
  | refl (v : View) : Path P v v
  | cons {k : Kind} {v v1 v2 : View} : Act k v v1 → P k = true → Path P v1 v2 → Path P v v2

theorem Path.trans {P : Kind → Bool} {a b c : View} (h1 : Path P a b) (h2 : Path P b c) : Path P a c := by
  induction h1 with
  | refl _ => exact h2
  | cons ha hk _ ih => exact Path.cons ha hk (ih h2)

theorem Path.single {P : Kind → Bool} {k : Kind} {a b : View} (h : Act k a b) (hk : P k = true) : Path P a b :=
  Path.cons h hk (Path.refl _)

theorem Path.mono {P Q : Kind → Bool} (hPQ : ∀ k, P k = true → Q k = true) {a b : View}
    (h : Path P a b) : Path Q a b := by
  induction h with
  | refl _ => exact Path.refl _
  | cons ha hk _ ih => exact Path.cons ha (hPQ _ hk) ih

theorem Path.of_eq {P : Kind → Bool} {a b : View} (h : a = b) : Path P a b := h ▸ Path.refl _

theorem Path.of_eq_act {P : Kind → Bool} {k : Kind} {a b b' : View} (h : Act k a b') (hk : P k = true)
    (e : b = b') : Path P a b := e ▸ Path.single h hk

theorem Path.neutral {P : Kind → Bool} (hP : P .quiet = true) {v v' : View} (evs : List Ev)
    (hv : v' = vEmit v evs) (hn : ∀ e ∈ evs, neutral e = true) : Path P v v' :=
  hv ▸ Path.single (Act.emit v evs hn) hP

def Kind.isQuiet : Kind → Bool
  | .quiet => true
  | _ => false

/-- kinds occurring in every handler but the connect()/reconnect() family -/
def Kind.isNormal : Kind → Bool
  | .quiet | .loud => true
  | _ => false

/-- kinds occurring in the connect()/reconnect() family -/
def Kind.isReconn : Kind → Bool
  | .quiet | .reconn => true
  | _ => false

def Kind.any : Kind → Bool := fun _ => true

abbrev Tr0 := Path Kind.isQuiet
abbrev TrN := Path Kind.isNormal
abbrev TrQ := Path Kind.isReconn
abbrev TrA := Path Kind.any

theorem Tr0.toN {a b : View} (h : Tr0 a b) : TrN a b :=
  Path.mono (fun k hk => by cases k <;> simp_all [Kind.isQuiet, Kind.isNormal]) h

theorem Tr0.toQ {a b : View} (h : Tr0 a b) : TrQ a b :=
  Path.mono (fun k hk => by cases k <;> simp_all [Kind.isQuiet, Kind.isReconn]) h

theorem Path.toA {P : Kind → Bool} {a b : View} (h : Path P a b) : TrA a b :=
  Path.mono (fun _ _ => rfl) h

inductive StepPath (v v' : View) : Prop
  | normal : TrN v v' → StepPath v v'
  | reconn : TrQ v v' → StepPath v v'
  | disc (v1 : View) : Act .disc v v1 → TrN v1 v' → StepPath v v'

theorem StepPath.toA {v v' : View} (h : StepPath v v') : TrA v v' := by
  cases h with
  | normal h => exact h.toA
  | reconn h => exact h.toA
  | disc v1 ha h => exact Path.cons ha rfl h.toA

end SessAct
end Paho
