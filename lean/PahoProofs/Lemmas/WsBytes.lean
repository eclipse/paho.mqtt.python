/-
Byte-level lemmas for the WebSocket framing proofs (C05Ws / C06Ws): big-endian packing, the masking
involution, the bit tests of the header bytes. Core Lean only.
-/
import Paho.Model.Ws
namespace Paho.Ws
open Paho

theorem b8_toNat {n : Nat} (h : n < 256) : (b8 n).toNat = n := by
  rw [b8, UInt8.toNat_ofNat']; exact Nat.mod_eq_of_lt h

/-- masking with a single bit: divide the conjunction by `2 ^ i` and reduce it modulo `2 ^ i` -/
theorem and_two_pow_eq (x i : Nat) : x &&& 2 ^ i = 2 ^ i * (x / 2 ^ i % 2) := by
  have hd : (x &&& 2 ^ i) / 2 ^ i = x / 2 ^ i % 2 := by
    rw [Nat.and_div_two_pow, Nat.div_self (Nat.two_pow_pos i), Nat.and_one_is_mod]
  have hm : (x &&& 2 ^ i) % 2 ^ i = 0 := by
    rw [Nat.and_mod_two_pow, Nat.mod_self, Nat.and_zero]
  rw [← hd, ← Nat.div_add_mod (x &&& 2 ^ i) (2 ^ i), hm, Nat.add_zero, Nat.mul_div_cancel_left _ (Nat.two_pow_pos i)]

theorem maskbit_eq (b : UInt8) : ((b.toNat &&& 0x80) == 0x80) = decide (b.toNat ≥ 128) := by
  have h : b.toNat &&& 0x80 = 128 * (b.toNat / 128 % 2) := and_two_pow_eq b.toNat 7
  by_cases hb : b.toNat ≥ 128
  · rw [h, Nat.div_eq_of_lt_le (k := 1) (by omega) b.toNat_lt, decide_eq_true hb]; rfl
  · rw [h, Nat.div_eq_of_lt (by omega), decide_eq_false hb]; rfl

theorem and15_eq (x : Nat) : x &&& 0x0f = x % 16 := Nat.and_two_pow_sub_one_eq_mod x 4

theorem and127_eq (x : Nat) : x &&& 0x7f = x % 128 := Nat.and_two_pow_sub_one_eq_mod x 7

theorem or128_eq {l : Nat} (h : l < 128) : 128 ||| l = 128 + l :=
  (Nat.two_pow_add_eq_or_of_lt (i := 7) h 1).symm

theorem beBytes_length (k n : Nat) : (beBytes k n).length = k := by
  induction k generalizing n with
  | zero => rfl
  | succ k ih => rw [beBytes, List.length_append, ih]; rfl

theorem beNat_append_single (l : Bytes) (x : UInt8) : beNat (l ++ [x]) = beNat l * 256 + x.toNat := by
  simp only [beNat, List.foldl_append, List.foldl_cons, List.foldl_nil]

theorem beNat_beBytes (k n : Nat) : beNat (beBytes k n) = n % 256 ^ k := by
  induction k generalizing n with
  | zero => simp [beBytes, beNat, Nat.mod_one]
  | succ k ih =>
    rw [beBytes, beNat_append_single, ih, b8_toNat (Nat.mod_lt _ (by decide))]
    rw [Nat.pow_succ, Nat.mul_comm (256 ^ k) 256, Nat.mod_mul, Nat.mul_comm, Nat.add_comm]

theorem beNat_beBytes_of_lt {k n : Nat} (h : n < 256 ^ k) : beNat (beBytes k n) = n := by
  rw [beNat_beBytes, Nat.mod_eq_of_lt h]

@[simp] theorem xorRange_length (key : Bytes) (lo hi : Nat) (p : Bytes) : (xorRange key lo hi p).length = p.length :=
  List.length_mapIdx

theorem xorRange_getElem (key : Bytes) (lo hi : Nat) (p : Bytes) (i : Nat) (h : i < (xorRange key lo hi p).length) :
    (xorRange key lo hi p)[i] =
      if lo ≤ i ∧ i < hi then p[i]'(by simpa using h) ^^^ key.getD (i % 4) 0 else p[i]'(by simpa using h) :=
  List.getElem_mapIdx ..

theorem xor_cancel (a b : UInt8) : (a ^^^ b) ^^^ b = a := by
  rw [UInt8.xor_assoc, UInt8.xor_self, UInt8.xor_zero]

theorem xorRange_xorRange (key : Bytes) (lo hi : Nat) (p : Bytes) :
    xorRange key lo hi (xorRange key lo hi p) = p := by
  apply List.ext_getElem (by simp)
  intro i h1 h2
  rw [xorRange_getElem]
  by_cases hc : lo ≤ i ∧ i < hi
  · rw [if_pos hc, xorRange_getElem, if_pos hc, xor_cancel]
  · rw [if_neg hc, xorRange_getElem, if_neg hc]

theorem xorRange_nil (key : Bytes) (lo hi : Nat) : xorRange key lo hi [] = [] := rfl

end Paho.Ws
