/-
For C05 part 2 (`parseBody` on what a broker sends): the type bits of the first byte, the two-byte integer and the
reason codes, in the form in which the parser meets them.
-/
import Paho.Model.Reader
import PahoProofs.Properties.C17

namespace Paho.ReaderLemmas
open Paho Paho.PropsLemmas

theorem and_f0 : ∀ c < 256, c &&& 0xF0 = c / 16 * 16 := by decide +kernel

theorem type_bits' (T f : Nat) (hT : T < 16) (hf : f < 16) : (T * 16 + f) &&& 240 = T * 16 := by
  rw [and_f0 _ (by omega)]; omega

/-- `rdU16_u16be` with the two bytes written out, as they stand once `be16` is unfolded -/
theorem rdU16_be (n : Nat) (h : n ≤ 65535) (rest : Bytes) :
    rdU16 (UInt8.ofNat (n / 256) :: UInt8.ofNat (n % 256) :: rest) = some n :=
  rdU16_u16be n h rest

theorem mkById_ok {pt v : Nat} (hd : Spec.reasonDefined pt v = true) : Reason.mkById pt v = .ok v := by
  rw [← Reason.getName_isOk] at hd
  unfold Reason.mkById
  cases hg : Reason.getName pt v with
  | error e => rw [hg] at hd; cases hd
  | ok n => rfl

theorem reasonUnpack_ok (pt : Nat) {rc : Nat} (rest : Bytes) (hv : rc < 256) (hd : Spec.reasonDefined pt rc = true) :
    reasonUnpack pt (UInt8.ofNat rc :: rest) = .ok rc := by
  simp only [reasonUnpack, ofNat_toNat rc hv]
  exact Reason.unpack_of_defined hd

theorem reasonList_ok (pt : Nat) (codes : List Nat) (hc : ∀ c ∈ codes, c < 256 ∧ Spec.reasonDefined pt c = true) :
    reasonList pt (codes.map UInt8.ofNat) = .ok codes := by
  induction codes with
  | nil => rfl
  | cons c cs ih =>
    obtain ⟨h1, h2⟩ := List.forall_mem_cons.mp hc
    simp only [List.map_cons, reasonList, ofNat_toNat c h1.1, mkById_ok h1.2, ih h2]
    rfl

end Paho.ReaderLemmas
