/-
What the routines below the outbound QoS handlers (`_sock_close`, `_packet_write`, `loop_write`, `_packet_queue`, the
`_send_*` family, `_check_keepalive`, ...) and the inbound `_handle_publish`, `_handle_pubrel` do to a state, once for
every `Frame R P`: a preorder `R` on states kept by logging an event of class `P` and by any `Upd`. Relations that read
`outq`, `regWrite`, the timer fields or the bytes of queued packets are no frames and walk the routines themselves.
Each theorem `R s₀ s → R s₀ (f s)` follows the control flow of `f`. Last, what several
groups need of the model itself: `S.run_ind` (induction over histories), `S.resetOutMsg_eq`, `newEvents_eq`.
-/
import Paho.Model.Session
import PahoProofs.Lemmas.SessionDefs

namespace Paho
namespace SessFrame
open S

/-- the components that none of these routines assigns -/
def core (s : S) : Cfg × Nat × Nat × Nat × List OutMsg × Int × Bool × Bool × Nat × Option Nat :=
  (s.cfg, s.proto, s.nconn, s.lastMid, s.out, s.inflight, s.firstConnect, s.inCb, s.now, s.reconnectDelay)

/-- a change outside `core` that keeps the log and the number of infos; entries of `infos` may be overwritten -/
structure Upd (s s' : S) : Prop where
  core : core s' = core s
  infos : s'.infos.length = s.infos.length
  log : s'.log = s.log

theorem Upd.cfg {s s' : S} (h : Upd s s') : s'.cfg = s.cfg := congrArg (·.1) h.core
theorem Upd.proto {s s' : S} (h : Upd s s') : s'.proto = s.proto := congrArg (·.2.1) h.core
theorem Upd.lastMid {s s' : S} (h : Upd s s') : s'.lastMid = s.lastMid := congrArg (·.2.2.2.1) h.core
theorem Upd.out {s s' : S} (h : Upd s s') : s'.out = s.out := congrArg (·.2.2.2.2.1) h.core
theorem Upd.inflight {s s' : S} (h : Upd s s') : s'.inflight = s.inflight := congrArg (·.2.2.2.2.2.1) h.core
theorem Upd.firstConnect {s s' : S} (h : Upd s s') : s'.firstConnect = s.firstConnect :=
  congrArg (·.2.2.2.2.2.2.1) h.core

/-- events of the socket layer, of `_packet_write` and of `_packet_queue`; `onMessage`, `qPublish`, `qPubrel` are not among
them, so the walks that log those take a hypothesis of their own (`hmsg`, `hpub`, `hrel`) -/
def lowEv : Ev → Bool
  | .tx .. | .sclose .. | .queued .. | .skClose _ | .skRegW _ | .skUnregW _ | .deadlock _ | .onDisconnect .. | .onPublish _
  | .infoDone .. | .exc _ | .fuelOut => true
  | _ => false

structure Frame (R : S → S → Prop) (P : Ev → Prop) : Prop where
  refl : ∀ s, R s s
  trans : ∀ {a b c}, R a b → R b c → R a c
  emit : ∀ s e, P e → R s (s.emit e)
  upd : ∀ {s s'}, Upd s s' → R s s'

variable {R : S → S → Prop} {P : Ev → Prop} {s₀ s : S}

/-! An `if` both of whose branches are already related to `s₀`; cheaper than `split` on a goal full of record updates. -/

theorem ite_state {c : Prop} [Decidable c] {a b : S} (ha : R s₀ a) (hb : R s₀ b) : R s₀ (if c then a else b) := by
  split <;> assumption

theorem ite_fst {α : Type} {c : Prop} [Decidable c] {p q : S × α} (hp : R s₀ p.1) (hq : R s₀ q.1) :
    R s₀ (if c then p else q).1 := by
  split <;> assumption

namespace Frame
variable (F : Frame R P)
include F

theorem thenEmit {e : Ev} (h : R s₀ s) (he : P e) : R s₀ (s.emit e) := F.trans h (F.emit s e he)

theorem thenUpd {s' : S} (h : R s₀ s) (hu : Upd s s') : R s₀ s' := F.trans h (F.upd hu)

theorem setInfo (i : Nat) (f : Info → Info) (h : R s₀ s) : R s₀ (s.setInfo i f) :=
  F.thenUpd h ⟨rfl, by simp [S.setInfo], rfl⟩

theorem nextSend (n : Nat) (h : R s₀ s) : R s₀ (s.nextSend n).1 := by
  unfold S.nextSend
  split
  · exact h
  · exact F.thenUpd h ⟨rfl, rfl, rfl⟩

theorem handleOnMessage (hmsg : ∀ m, P (.onMessage m)) (m : InMsg) (h : R s₀ s) : R s₀ (s.handleOnMessage m).1 := by
  unfold S.handleOnMessage
  have h1 := F.thenEmit h (hmsg m)
  dsimp only
  split
  · exact F.thenUpd h1 ⟨rfl, rfl, rfl⟩
  · exact h1

theorem messagesReconnectResetIn (h : R s₀ s) : R s₀ s.messagesReconnectResetIn := by
  unfold S.messagesReconnectResetIn
  split <;> exact F.thenUpd h ⟨rfl, rfl, rfl⟩

variable (hP : ∀ e, lowEv e = true → P e)
include hP

theorem callSocketRegisterWrite (h : R s₀ s) : R s₀ s.callSocketRegisterWrite := by
  unfold S.callSocketRegisterWrite
  split
  · exact h
  · split
    · exact h
    · have h1 : R s₀ { s with regWrite := true } := F.thenUpd h ⟨rfl, rfl, rfl⟩
      dsimp only
      split
      · exact F.thenEmit h1 (hP _ rfl)
      · exact h1

theorem callSocketUnregisterWrite (o : Option Nat) (h : R s₀ s) :
    R s₀ (s.callSocketUnregisterWrite o) := by
  unfold S.callSocketUnregisterWrite
  split
  · exact h
  · split
    · exact h
    · have h1 : R s₀ { s with regWrite := false } := F.thenUpd h ⟨rfl, rfl, rfl⟩
      dsimp only
      split
      · exact F.thenEmit h1 (hP _ rfl)
      · exact h1

theorem sockClose (r : Bool) (h : R s₀ s) : R s₀ (s.sockClose r) := by
  unfold S.sockClose
  split
  · exact h
  · rename_i c _
    have h1 := F.callSocketUnregisterWrite hP (some c)
      (F.thenUpd h (s' := { s with sock := none, ackd := false, discCalled := false }) ⟨rfl, rfl, rfl⟩)
    dsimp only
    refine F.thenEmit ?_ (hP _ rfl)
    split
    · split
      · exact F.thenEmit h1 (hP _ rfl)
      · exact F.thenEmit h1 (hP _ rfl)
    · exact h1

theorem doOnDisconnect (rc : RC) (b : Bool) (h : R s₀ s) :
    R s₀ (s.doOnDisconnect rc b) := F.thenEmit h (hP _ rfl)

/-- `_sock_close`, the state update and `on_disconnect`: the way every routine gives up a connection -/
theorem closeWith (r : Bool) (x : ConnState) (rc : RC) (b : Bool) (h : R s₀ s) :
    R s₀ (({ s.sockClose r with cstate := x } : S).doOnDisconnect rc b) :=
  F.doOnDisconnect hP rc b (F.thenUpd (F.sockClose hP r h) ⟨rfl, rfl, rfl⟩)

theorem loopRcHandle (rc : RC) (h : R s₀ s) : R s₀ (s.loopRcHandle rc).1 := by
  unfold S.loopRcHandle
  exact ite_fst (ite_fst h (ite_fst (F.closeWith hP _ _ _ _ h) (F.closeWith hP _ _ _ _ h))) h

theorem packetWrite (fuel : Nat) : ∀ {s : S}, R s₀ s → R s₀ (s.packetWrite fuel).1 := by
  induction fuel with
  | zero => intro s h; exact F.thenEmit h (hP _ rfl)
  | succ n ih =>
    intro s h
    unfold S.packetWrite
    split
    · exact h
    · extract_lets s0 data
      have h1 := F.nextSend data.length (F.thenUpd h (s' := s0) ⟨rfl, rfl, rfl⟩)
      split
      rename_i s1 d hns
      rw [hns] at h1
      dsimp only at h1
      split
      · exact F.thenUpd (F.callSocketRegisterWrite hP h1) ⟨rfl, rfl, rfl⟩
      · exact F.thenUpd h1 ⟨rfl, rfl, rfl⟩
      · extract_lets k s2 pkt1 s4 s3 s5 s6 s7 s8
        have h2 : R s₀ s2 := by
          unfold s2; split
          · exact F.thenEmit h1 (hP _ rfl)
          · exact h1
        have h3 : R s₀ s3 := by
          unfold s3; split
          · have h4 : R s₀ s4 := F.thenEmit h2 (hP _ rfl)
            split
            · exact F.thenEmit (F.setInfo _ _ h4) (hP _ rfl)
            · exact F.thenEmit h4 (hP _ rfl)
          · exact h2
        split
        · split
          · split
            · have h6 : R s₀ s6 := F.sockClose hP _ (F.thenUpd h3 ⟨rfl, rfl, rfl⟩)
              have h7 : R s₀ s7 := by
                unfold s7; split
                · exact F.thenUpd h6 ⟨rfl, rfl, rfl⟩
                · exact h6
              exact F.doOnDisconnect hP _ _ h7
            · exact ih h3
          · exact ih (F.thenUpd h2 ⟨rfl, rfl, rfl⟩)
        · exact F.thenUpd h1 ⟨rfl, rfl, rfl⟩

theorem loopWrite (h : R s₀ s) : R s₀ s.loopWrite.1 := by
  unfold S.loopWrite
  split
  · exact h
  · have h1 := F.packetWrite hP s.writeFuel h
    split
    rename_i s1 rc hpw
    rw [hpw] at h1
    split
    rename_i s2 rc2 h2eq
    have h2 : R s₀ s2 := by
      have : R s₀ (if rc = rcAgain then (s1, rcSuccess) else if rc > 0 then s1.loopRcHandle rc else (s1, rcSuccess)).1 := by
        split
        · exact h1
        · split
          · exact F.loopRcHandle hP _ h1
          · exact h1
      rw [h2eq] at this; exact this
    dsimp only
    split
    · exact F.callSocketRegisterWrite hP h2
    · exact F.callSocketUnregisterWrite hP _ h2

theorem packetQueue (pkt : OutPkt) (d : Bool) (h : R s₀ s) :
    R s₀ (s.packetQueue pkt d).1 := by
  unfold S.packetQueue
  extract_lets s1 s2
  have h2 : R s₀ s2 := by
    have h1 : R s₀ s1 := F.thenUpd h ⟨rfl, rfl, rfl⟩
    unfold s2; split
    · exact F.thenEmit h1 (hP _ rfl)
    · exact h1
  split
  · exact F.loopWrite hP h2
  · exact F.callSocketRegisterWrite hP h2

theorem sendCmdMid (cmd mid : Nat) (d : Bool) (h : R s₀ s) :
    R s₀ (s.sendCmdMid cmd mid d).1 := by
  unfold S.sendCmdMid
  split
  · exact F.thenEmit h (hP _ rfl)
  · exact F.packetQueue hP _ _ h

theorem sendSimple (cmd : Nat) (h : R s₀ s) : R s₀ (s.sendSimple cmd).1 :=
  F.packetQueue hP _ _ h

theorem sendConnect (h : R s₀ s) : R s₀ s.sendConnect.1 := by
  unfold S.sendConnect
  extract_lets a
  split
  · exact F.thenEmit h (hP _ rfl)
  · exact F.packetQueue hP _ _ h

/-- `_send_pubrel` also logs the ghost event `qPubrel` -/
theorem sendPubrel (hrel : ∀ c u m, P (.qPubrel c u m)) (mid : Nat) (d : Bool)
    (h : R s₀ s) : R s₀ (s.sendPubrel mid d).1 := by
  unfold S.sendPubrel
  refine F.sendCmdMid hP _ _ _ ?_
  split
  · exact F.thenEmit h (hrel _ _ _)
  · exact h

/-- `_send_publish`, given an instance id, also logs the ghost event `qPublish` -/
theorem sendPublish (mid : Nat) (topic payload : Bytes) (qos : Nat) (retain dup : Bool)
    (info : Option Nat) (d : Bool) (uid : Option Nat) (hpub : ∀ c u, uid = some u → P (.qPublish c u mid qos dup))
    (h : R s₀ s) : R s₀ (s.sendPublish mid topic payload qos retain dup info d uid).1 := by
  unfold S.sendPublish
  split
  · exact h
  · split
    · exact F.thenEmit h (hP _ rfl)
    · refine F.packetQueue hP _ _ ?_
      split
      · exact F.thenEmit h (hpub _ _ rfl)
      · exact h

theorem failQueuedQos0 (q : List OutPkt) : ∀ {s : S}, R s₀ s → R s₀ (s.failQueuedQos0 q) := by
  induction q with
  | nil => intro s h; exact h
  | cons p rest ih =>
    intro s h
    unfold S.failQueuedQos0
    refine ih ?_
    split
    · split
      · exact F.thenEmit (F.setInfo _ _ h) (hP _ rfl)
      · exact h
    · exact h

/-! Handlers that leave the outgoing message table alone; what else they assign (`inm`, `raiseOnMessage`, `pingT`,
`lastIn`, `lastOut`, `cstate`, `hostSet`) is not in `core`. -/

theorem handlePublish (hmsg : ∀ m, P (.onMessage m)) (m : InMsg) (h : R s₀ s) :
    R s₀ (s.handlePublish m).1 := by
  unfold S.handlePublish
  extract_lets m1
  have h1 := F.handleOnMessage hmsg m1 h
  refine ite_fst h (ite_fst ?_ (ite_fst ?_ (ite_fst ?_ h)))
  · split
    rename_i s1 r he
    rw [he] at h1
    exact ite_fst h1 h1
  · split
    rename_i s1 r he
    rw [he] at h1
    exact ite_fst h1 (ite_fst h1 (F.sendCmdMid hP _ _ _ h1))
  · have h2 := F.sendCmdMid hP 0x50 m1.mid true h
    unfold S.sendPubrec
    split
    rename_i s1 rc he
    rw [he] at h2
    exact F.thenUpd h2 ⟨rfl, rfl, rfl⟩

theorem handlePubrel (hmsg : ∀ m, P (.onMessage m)) (mid : Nat) (h : R s₀ s) :
    R s₀ (s.handlePubrel mid).1 := by
  have tail : ∀ p : S × Bool, R s₀ p.1 →
      R s₀ (if p.2 = true then (p.1, HRes.raised "RuntimeError")
        else if p.1.cfg.manualAck = true then (p.1, HRes.rc rcSuccess)
        else ((p.1.sendPubcomp mid).1, HRes.rc (p.1.sendPubcomp mid).2)).1 := by
    intro p hp
    split
    · exact hp
    · split
      · exact hp
      · exact F.sendCmdMid hP _ _ _ hp
  rcases hfind : s.inm.find? (fun (x : InMsg) => x.mid = mid) with _ | m
  · simp only [S.handlePubrel, hfind]
    exact tail (s, false) h
  · simp only [S.handlePubrel, hfind]
    exact tail _ (F.handleOnMessage hmsg _ (F.thenUpd h ⟨rfl, rfl, rfl⟩))

theorem handleDisconnect (r : Option Nat) (h : R s₀ s) :
    R s₀ (s.handleDisconnect r).1 := by
  unfold S.handleDisconnect
  extract_lets bad s1 s2 s3
  clear_value bad
  cases bad
  · refine F.thenEmit ?_ (hP _ rfl)
    unfold s2
    split <;> exact F.thenUpd (F.sockClose hP _ h) ⟨rfl, rfl, rfl⟩
  · exact h

theorem checkKeepalive (h : R s₀ s) : R s₀ s.checkKeepalive := by
  unfold S.checkKeepalive
  extract_lets k
  refine ite_state h ?_
  split
  · exact h
  · refine ite_state (ite_state ?_ (ite_state (F.closeWith hP _ _ _ _ h) (F.closeWith hP _ _ _ _ h))) h
    have h1 := F.sendSimple hP 0xC0 h
    split
    rename_i s1 rc he
    rw [he] at h1
    extract_lets s2
    exact F.thenUpd (s := s2) (ite_state (F.thenUpd h1 ⟨rfl, rfl, rfl⟩) h1) ⟨rfl, rfl, rfl⟩

theorem loopMisc (h : R s₀ s) : R s₀ s.loopMisc.1 := by
  unfold S.loopMisc
  split
  · exact h
  · have h1 := F.checkKeepalive hP h
    dsimp only
    split
    · exact h1
    · split
      · split
        · exact F.closeWith hP _ _ _ _ h1
        · exact F.closeWith hP _ _ _ _ h1
      · exact h1

theorem connectAsync (h : R s₀ s) : R s₀ s.connectAsync :=
  F.thenUpd (F.sockClose hP _ h) ⟨rfl, rfl, rfl⟩

end Frame
end SessFrame

namespace S

theorem run_cons (s : S) (op : Op) (ops : List Op) : s.run (op :: ops) = (s.step op).run ops := rfl

theorem run_append (s : S) (a b : List Op) : s.run (a ++ b) = (s.run a).run b := List.foldl_append ..

theorem run_ind {P : S → Prop} (step : ∀ s op, P s → P (s.step op)) : ∀ (ops : List Op) {s : S}, P s → P (s.run ops)
  | [], _, h => h
  | op :: rest, _, h => run_ind step rest (step _ op h)

/-- `_messages_reconnect_reset_out` rewrites `dup` and `state` of a message, nothing else (one `if` at a time: `split`
would also open the `if`s inside the new `dup`) -/
theorem resetOutMsg_eq (cl : Bool) (m : OutMsg) : ∃ d st, resetOutMsg cl m = { m with dup := d, state := st } := by
  let P : OutMsg → Prop := fun x => ∃ d st, x = { m with dup := d, state := st }
  have upd : ∀ d st, P { m with dup := d, state := st } := fun d st => ⟨d, st, rfl⟩
  have ite {c : Prop} [Decidable c] {a b : OutMsg} (ha : P a) (hb : P b) : P (if c then a else b) := by
    split <;> assumption
  exact ite (upd ..) (ite (upd ..) (ite (ite (upd ..) (ite (upd ..) (upd ..))) (upd m.dup m.state)))

theorem resetOutMsg_qos (cl : Bool) (m : OutMsg) : (resetOutMsg cl m).qos = m.qos := by
  obtain ⟨d, st, h⟩ := resetOutMsg_eq cl m
  rw [h]

end S

theorem newEvents_eq {s : S} {op : Op} {evs : List Ev} (h : (s.step op).log = s.log ++ evs) : newEvents s op = evs := by
  rw [newEvents, h, List.drop_left]
end Paho
