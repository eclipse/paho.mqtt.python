/-
C16 (write wake-up): at every op boundary an open socket with a non-empty output queue has its write registration
set. `W`, the Prop form of `S.invWakeup`, needs no auxiliary invariant: `loopWrite`, `callSocketRegisterWrite` and
`packetQueue` establish it from nothing, `sockClose` makes it trivial, every other handler leaves `sock`, `outq` and
`regWrite` alone (`W.frame`). So `W` is no `SessFrame.Frame`: a frame is only kept, never established, and its `Upd`
lets `outq` and `regWrite` change.

The lemmas walk the handler's text: `W_ite`/`W_ite_fst` at an `if`, `split` at a `match` (`let (s', r) := p` leaves
`p = (s', r)`, which `W_of_fst` takes as `‹_›`), the callee's lemma at a call. A state bound by `let` is named, shown
to satisfy `W`, and its value forgotten (`clear_value`): the `rfl`s of `W.frame` are immediate across one or two
updates but grow exponentially along a chain of `emit`s and `setInfo`s, which a `let` variable keeping its value is.
-/
import Paho.Model.Session
import Paho.Model.SessionInv
import PahoProofs.Lemmas.SessionDefs
import PahoProofs.Lemmas.SessionFrame
namespace Paho
namespace SessWake
open S

variable {s : S}

def W (s : S) : Prop := s.sock.isSome = true → s.outq ≠ [] → s.regWrite = true

theorem W_of_none (h : s.sock = none) : W s := by
  intro h1; simp [h] at h1

theorem W_of_nil (h : s.outq = []) : W s := by
  intro _ h2; exact absurd h h2

theorem W_of_reg (h : s.regWrite = true) : W s := fun _ _ => h

theorem W_of_eq {s s' : S} (h1 : s'.sock = s.sock) (h2 : s'.outq = s.outq)
    (h3 : s'.regWrite = s.regWrite) (hw : W s) : W s' := by
  unfold W at *; rw [h1, h2, h3]; exact hw

/-- `W_of_eq` for a record update: `rfl` compares the fields once the goal has fixed `s'` -/
theorem W.frame {s s' : S} (hw : W s) (h1 : s'.sock = s.sock := by rfl)
    (h2 : s'.outq = s.outq := by rfl) (h3 : s'.regWrite = s.regWrite := by rfl) : W s' :=
  W_of_eq h1 h2 h3 hw

theorem W_ite {c : Prop} [Decidable c] {a b : S} (ha : W a) (hb : W b) :
    W (if c then a else b) := by
  split <;> assumption

theorem W_ite_fst {α : Type} {c : Prop} [Decidable c] {p q : S × α} (hp : W p.1) (hq : W q.1) :
    W (if c then p else q).1 := by
  split <;> assumption

theorem W_of_fst {α : Type} {p : S × α} {s' : S} {r : α} (h : W p.1) (heq : p = (s', r)) : W s' := by
  subst heq; exact h

@[simp] theorem W_emit (s : S) (e : Ev) : W (s.emit e) ↔ W s := Iff.rfl
@[simp] theorem W_setInfo (s : S) (i : Nat) (f : Info → Info) : W (s.setInfo i f) ↔ W s := Iff.rfl
@[simp] theorem emit_sock (s : S) (e : Ev) : (s.emit e).sock = s.sock := rfl
@[simp] theorem emit_outq (s : S) (e : Ev) : (s.emit e).outq = s.outq := rfl
@[simp] theorem emit_regWrite (s : S) (e : Ev) : (s.emit e).regWrite = s.regWrite := rfl
@[simp] theorem setInfo_sock (s : S) (i : Nat) (f : Info → Info) : (s.setInfo i f).sock = s.sock := rfl
@[simp] theorem setInfo_outq (s : S) (i : Nat) (f : Info → Info) : (s.setInfo i f).outq = s.outq := rfl
@[simp] theorem setInfo_regWrite (s : S) (i : Nat) (f : Info → Info) : (s.setInfo i f).regWrite = s.regWrite := rfl

theorem W.info {i : Nat} {f : Info → Info} {e : Ev} (h : W s) :
    W ((s.setInfo i f).emit e) := (W_emit _ _).2 h

theorem crw_frame (s : S) :
    s.callSocketRegisterWrite.sock = s.sock ∧ s.callSocketRegisterWrite.outq = s.outq := by
  unfold callSocketRegisterWrite
  split
  · exact ⟨rfl, rfl⟩
  · simp only [apply_ite S.sock, apply_ite S.outq, emit_sock, emit_outq, ite_self, and_self]

@[simp] theorem crw_sock (s : S) : s.callSocketRegisterWrite.sock = s.sock := (crw_frame s).1

@[simp] theorem crw_outq (s : S) : s.callSocketRegisterWrite.outq = s.outq := (crw_frame s).2

theorem cuw_frame (s : S) (o : Option Nat) :
    (s.callSocketUnregisterWrite o).sock = s.sock ∧ (s.callSocketUnregisterWrite o).outq = s.outq := by
  unfold callSocketUnregisterWrite
  split
  · exact ⟨rfl, rfl⟩
  · simp only [apply_ite S.sock, apply_ite S.outq, emit_sock, emit_outq, ite_self, and_self]

@[simp] theorem cuw_sock (s : S) (o : Option Nat) : (s.callSocketUnregisterWrite o).sock = s.sock :=
  (cuw_frame s o).1

@[simp] theorem cuw_outq (s : S) (o : Option Nat) : (s.callSocketUnregisterWrite o).outq = s.outq :=
  (cuw_frame s o).2

theorem W_crw (s : S) : W s.callSocketRegisterWrite := by
  unfold callSocketRegisterWrite
  split
  · exact W_of_none ‹_›
  · split
    · exact W_of_reg ‹_›
    · extract_lets s1
      exact W_ite (W_of_reg rfl) (W_of_reg rfl)

@[simp] theorem sockClose_sock (s : S) (r : Bool) : (s.sockClose r).sock = none := by
  unfold sockClose
  split
  · assumption
  · simp only [emit_sock, cuw_sock, apply_ite S.sock, ite_self]

theorem W_sockClose (s : S) (r : Bool) : W (s.sockClose r) := W_of_none (sockClose_sock s r)

variable {mid qos : Nat} {topic payload : Bytes} {retain direct ok : Bool}

theorem W_loopRcHandle {rc : RC} (h : W s) : W (s.loopRcHandle rc).1 := by
  unfold loopRcHandle
  extract_lets s1
  have h1 : W s1 := W_sockClose s _
  clear_value s1
  exact W_ite_fst (W_ite_fst h (W_ite_fst h1.frame h1.frame)) h

theorem W_loopWrite (s : S) : W s.loopWrite.1 := by
  unfold loopWrite
  split
  · exact W_of_none ‹_›
  · split
    split
    split
    · exact W_crw _
    · rename_i h
      apply W_of_nil
      simpa [wantWrite] using h

theorem W_packetQueue (s : S) (pkt : OutPkt) (d : Bool) : W (s.packetQueue pkt d).1 := by
  unfold packetQueue
  extract_lets s1 s2
  exact W_ite_fst (W_loopWrite _) (W_crw _)

theorem W_sendPublish {dup : Bool} {info uid : Option Nat} (h : W s) :
    W (s.sendPublish mid topic payload qos retain dup info direct uid).1 := by
  unfold sendPublish
  split
  · exact h
  · split
    · exact h
    · exact W_packetQueue _ _ _

theorem W_sendCmdMid {command : Nat} (h : W s) :
    W (s.sendCmdMid command mid direct).1 := by
  unfold sendCmdMid
  split
  · exact h
  · exact W_packetQueue _ _ _

theorem W_sendPubrel (h : W s) :
    W (s.sendPubrel mid direct).1 := by
  unfold sendPubrel
  apply W_sendCmdMid
  split <;> exact h

theorem W_sendConnect (h : W s) : W s.sendConnect.1 := by
  unfold sendConnect
  extract_lets a
  split
  · exact h
  · exact W_packetQueue _ _ _

theorem failQueuedQos0_frame (s : S) (l : List OutPkt) :
    (s.failQueuedQos0 l).sock = s.sock ∧ (s.failQueuedQos0 l).outq = s.outq
      ∧ (s.failQueuedQos0 l).regWrite = s.regWrite := by
  induction l generalizing s with
  | nil => exact ⟨rfl, rfl, rfl⟩
  | cons p rest ih =>
    unfold failQueuedQos0
    extract_lets t
    obtain ⟨h1, h2, h3⟩ := ih t
    rw [h1, h2, h3]
    unfold t
    split
    · split
      · exact ⟨emit_sock _ _, emit_outq _ _, emit_regWrite _ _⟩
      · exact ⟨rfl, rfl, rfl⟩
    · exact ⟨rfl, rfl, rfl⟩

theorem resetIn_outq (s : S) : s.messagesReconnectResetIn.outq = s.outq := by
  unfold messagesReconnectResetIn; split <;> rfl
theorem resetIn_sock (s : S) : s.messagesReconnectResetIn.sock = s.sock := by
  unfold messagesReconnectResetIn; split <;> rfl
theorem resetIn_regWrite (s : S) : s.messagesReconnectResetIn.regWrite = s.regWrite := by
  unfold messagesReconnectResetIn; split <;> rfl

/-- the queue is emptied before the new socket is opened, so `W` holds when CONNECT is queued -/
theorem W_reconnect (h : W s) : W (s.reconnect ok).1 := by
  unfold reconnect
  refine W_ite_fst h ?_
  extract_lets s1 s2 s3 s4 s5 s6 c s7 s8 s9
  have h5 : s5.outq = [] := resetIn_outq s4.messagesReconnectResetOut
  clear_value s5
  have h6 : s6.outq = [] := h5
  clear_value s6
  refine W_ite_fst (W_of_nil h6) ?_
  have h8 : W s8 := W_of_nil h6
  clear_value s8
  have h9 : W s9 := W_ite (W_ite h8 h8) h8
  clear_value s9
  split
  exact W_of_fst (W_sendConnect h9) ‹_›

theorem W_connectAsync (s : S) : W s.connectAsync := (W_sockClose s true).frame

theorem W_connect (s : S) (ok : Bool) : W (s.connect ok).1 := W_reconnect (W_connectAsync _)

theorem W_updateInflight {fuel idx : Nat} (h : W s) :
    W (s.updateInflight fuel idx).1 := by
  induction fuel generalizing s idx with
  | zero => exact h
  | succ n ih =>
    unfold updateInflight
    split
    · exact h
    · refine W_ite_fst h (W_ite_fst (W_ite_fst ?_ (ih h)) h)
      extract_lets m' s1
      have h1 : W s1 := h.frame
      clear_value s1
      split
      have h2 := W_of_fst (W_sendPublish h1) ‹_›
      exact W_ite_fst h2 (ih h2)

theorem W_doOnPublish (h : W s) : W (s.doOnPublish mid).1 := by
  unfold doOnPublish
  extract_lets s1
  have h1 : W s1 := h
  clear_value s1
  split
  · exact h1
  · extract_lets s2 s3 s4 s5
    have h3 : W s3 := h1.frame
    clear_value s3
    have h4 : W s4 := h3.info
    clear_value s4
    have h5 : W s5 := h4.frame
    clear_value s5
    refine W_ite_fst (W_ite_fst ?_ h5) h4
    split
    have h6 := W_of_fst (W_updateInflight h5) ‹_›
    exact W_ite_fst h6 h6

theorem W_handlePubackcomp (h : W s) : W (s.handlePubackcomp mid).1 := by
  unfold handlePubackcomp
  exact W_ite_fst (W_doOnPublish h) h

theorem W_handlePubrec (h : W s) : W (s.handlePubrec mid).1 := by
  unfold handlePubrec
  exact W_ite_fst (W_sendPubrel h.frame) h

theorem W_handleOnMessage {m : InMsg} (h : W s) : W (s.handleOnMessage m).1 := by
  unfold handleOnMessage
  extract_lets s1
  have h1 : W s1 := h
  clear_value s1
  exact W_ite_fst h1.frame h1

theorem W_handlePublish {m : InMsg} (h : W s) : W (s.handlePublish m).1 := by
  unfold handlePublish
  extract_lets m1
  refine W_ite_fst h (W_ite_fst ?_ (W_ite_fst ?_ (W_ite_fst ?_ h)))
  · split
    have h1 := W_of_fst (W_handleOnMessage h) ‹_›
    exact W_ite_fst h1 h1
  · split
    have h1 := W_of_fst (W_handleOnMessage h) ‹_›
    refine W_ite_fst h1 (W_ite_fst h1 ?_)
    split
    exact W_of_fst (W_sendCmdMid h1) ‹_›
  · split
    exact (W_of_fst (W_sendCmdMid h) ‹_›).frame

theorem W_handlePubrel (h : W s) : W (s.handlePubrel mid).1 := by
  unfold handlePubrel
  split
  rename_i s1 raised heq
  have h1 : W s1 := by
    split at heq
    · exact W_of_fst (W_handleOnMessage h.frame) heq
    · exact W_of_fst h heq
  refine W_ite_fst h1 (W_ite_fst h1 ?_)
  split
  exact W_of_fst (W_sendCmdMid h1) ‹_›

theorem W_connackResend {fuel idx : Nat} {rc : RC} (h : W s) :
    W (s.connackResend fuel idx rc).1 := by
  induction fuel generalizing s idx rc with
  | zero => exact h
  | succ n ih =>
    unfold connackResend
    split
    · exact h
    · refine W_ite_fst h (W_ite_fst ?_ ?_)
      · split
        exact W_of_fst (W_loopWrite _) ‹_›
      · split
        rename_i s1 rc1 stop heq
        have h1 : W s1 := by
          refine W_of_fst (W_ite_fst ?_ (W_ite_fst ?_ (W_ite_fst ?_ h))) heq
          all_goals
            extract_lets sa
            have ha : W sa := h.frame
            split
          · exact W_of_fst (W_sendPublish ha) ‹_›
          · exact W_of_fst (W_sendPublish ha) ‹_›
          · exact W_of_fst (W_sendPubrel ha) ‹_›
        refine W_ite_fst h1 ?_
        split
        exact ih (W_of_fst (W_loopWrite _) ‹_›)

theorem W_handleConnack {sp : Bool} {result : Nat} (h : W s) :
    W (s.handleConnack sp result ok).1 := by
  unfold handleConnack
  extract_lets pre sr s1 shown s3
  have h1 : W s1 := W_ite h.frame h
  clear_value s1
  have h3 : W s3 := h1
  have hr : W (sr.reconnect ok).1 := W_reconnect h.frame
  clear_value pre sr s3
  split
  · exact h
  · refine W_ite_fst (W_ite_fst h ?_) (W_ite_fst ?_ (W_ite_fst h3 h3))
    · split
      · have h' := W_of_fst hr ‹_›
        exact h'
      · exact hr
    · split
      exact W_of_fst (W_connackResend h3) ‹_›

theorem W_handleDisconnect {reason : Option Nat} (h : W s) :
    W (s.handleDisconnect reason).1 := by
  unfold handleDisconnect
  extract_lets bad s1 s2 s3
  have h1 : W s1 := W_sockClose s _
  clear_value bad s1
  have h2 : W s2 := W_ite h1.frame h1.frame
  clear_value s2
  have h3 : W s3 := h2
  split
  · exact h
  · exact h3

theorem W_packetHandle {p : RxPkt} (h : W s) :
    W (s.packetHandle p ok).1 := by
  -- `dsimp` takes `(let (s, rc) := x; (s, .rc rc)).1` to `x.1`
  cases p <;> dsimp only [packetHandle]
  case pingreq => exact W_packetQueue _ _ _
  case puback | pubcomp => exact W_handlePubackcomp h
  case pubrec => exact W_handlePubrec h
  case publish => exact W_handlePublish h
  case pubrel => exact W_handlePubrel h
  case connack => exact W_handleConnack h
  case disconnect => exact W_ite_fst (W_handleDisconnect h) h
  case pingresp | suback | unsuback | badcmd | malformed => exact h

theorem W_loopRead {item : RxItem} (h : W s) : W (s.loopRead item ok).1 := by
  unfold loopRead
  split
  · exact h
  · split
    · exact h
    · split
      exact W_of_fst (W_loopRcHandle h) ‹_›
    · split
      exact W_of_fst (W_loopRcHandle h) ‹_›
    · split
      · exact W_of_fst (W_packetHandle h) ‹_›
      · extract_lets s2
        have h2 : W s2 := (W_of_fst (W_packetHandle h) ‹_›).frame
        clear_value s2
        refine W_ite_fst ?_ (W_ite_fst h2 ?_)
        · split
          exact W_of_fst (W_loopRcHandle h2) ‹_›
        · split <;> exact h2

theorem W_checkKeepalive (h : W s) : W s.checkKeepalive := by
  unfold checkKeepalive
  extract_lets k sc
  have hc : W sc := W_sockClose s _
  clear_value sc
  refine W_ite h ?_
  split
  · exact h
  · refine W_ite (W_ite ?_ (W_ite hc.frame hc.frame)) h
    split
    extract_lets s2
    have h1 := W_of_fst (W_packetQueue _ _ _) ‹_›
    have h2 : W s2 := W_ite h1.frame h1
    exact h2.frame

theorem W_loopMisc (h : W s) : W s.loopMisc.1 := by
  unfold loopMisc
  split
  · exact h
  · extract_lets s1 sc
    have h1 : W s1 := W_checkKeepalive h
    have hc : W sc := W_sockClose s1 _
    clear_value s1 sc
    split
    · exact h1
    · refine W_ite_fst ?_ h1
      split
      rename_i s3 rc heq
      have h3 : W s3 := W_of_fst (W_ite_fst hc.frame hc.frame) heq
      exact h3

theorem W_publish (h : W s) :
    W (s.publish qos topic payload retain) := by
  unfold publish
  split
  · exact h
  · exact h
  · extract_lets mid s1 infoIdx s2 m m1 s3 s4
    have h2 : W s2 := h.frame
    have h3 : W s3 := h2.frame
    have h4 : W s4 := h2.frame
    refine W_ite ?_ (W_ite h2.info (W_ite h2.info (W_ite ?_ h4.info)))
    · split
      exact (W_of_fst (W_sendPublish h2) ‹_›).info
    · split
      have h5 := W_of_fst (W_sendPublish h3) ‹_›
      extract_lets s6
      have h6 : W s6 := W_ite h5.frame h5
      exact h6.info

theorem W_subscribe (h : W s) : W (s.subscribe topic qos) := by
  unfold subscribe
  refine W_ite h (W_ite h (W_ite h ?_))
  split
  · exact h
  · extract_lets mid s1
    split
    · exact h
    · split
      exact (W_emit _ _).2 (W_of_fst (W_packetQueue _ _ _) ‹_›)

theorem W_unsubscribe (h : W s) : W (s.unsubscribe topic) := by
  unfold unsubscribe
  refine W_ite h ?_
  split
  · exact h
  · extract_lets mid s1
    split
    · exact h
    · split
      exact (W_emit _ _).2 (W_of_fst (W_packetQueue _ _ _) ‹_›)

theorem W_disconnect (h : W s) : W s.disconnect := by
  unfold disconnect
  split
  · exact h
  · extract_lets s1
    split
    · exact h
    · split
      exact (W_emit _ _).2 (W_of_fst (W_packetQueue _ _ _) ‹_›)

theorem W_ack (h : W s) : W (s.ack mid qos) := by
  unfold ack
  refine W_ite (W_ite ?_ (W_ite ?_ h)) h
  · split
    exact (W_emit _ _).2 (W_of_fst (W_sendCmdMid h) ‹_›)
  · split
    exact (W_emit _ _).2 (W_of_fst (W_sendCmdMid h) ‹_›)

theorem W_step (s : S) (op : Op) (h : W s) : W (s.step op) := by
  cases op <;> dsimp only [S.step]
  case connect => exact (W_emit _ _).2 (W_connect _ _)
  case reconnect => exact (W_emit _ _).2 (W_reconnect h)
  case rx => exact (W_emit _ _).2 (W_loopRead h)
  case loopWrite => exact (W_emit _ _).2 (W_loopWrite _)
  case loopMisc => exact (W_emit _ _).2 (W_loopMisc h)
  case connectAsync => exact W_connectAsync _
  case publish => exact W_publish h
  case subscribe => exact W_subscribe h
  case unsubscribe => exact W_unsubscribe h
  case disconnect => exact W_disconnect h
  case ack => exact W_ack h
  case tick | send | raiseOnMessage => exact h

theorem W_run (ops : List Op) : ∀ s : S, W s → W (s.run ops) := fun _ h => run_ind W_step ops h

theorem invWakeup_of_W {s : S} (h : W s) : s.invWakeup = true := by
  unfold S.invWakeup S.wantWrite
  cases hs : s.sock.isSome
  · rfl
  · cases hq : s.outq
    · rfl
    · exact h hs (hq ▸ List.cons_ne_nil _ _)

theorem wakeup_run (cfg : Cfg) (proto : Nat) (ops : List Op) :
    (runFrom cfg proto ops).invWakeup = true := by
  apply invWakeup_of_W
  unfold runFrom
  apply W_run
  exact W_of_none rfl

end SessWake
end Paho
