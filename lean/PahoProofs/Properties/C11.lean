/-
C11 — topic filter matching equals the MQTT spec; the filter trie stays consistent.
-/
import PahoProofs.Lemmas.Split
import PahoProofs.Lemmas.TrieMatch

namespace Paho
open Node

variable {V : Type}

/-- no topic level is a bare wildcard (true of every valid topic name) -/
def NoWildLevel (tl : List Level) : Prop := ∀ l ∈ tl, l ≠ lvlPlus ∧ l ≠ lvlHash

theorem isDollarTopic_eq (topic : List UInt8) : Spec.isDollarTopic topic = startsDollar topic := by
  cases topic <;> rfl

theorem matchesL_eq_matchW (d : Bool) (fl tl : List Level) (htl : tl ≠ []) :
    Spec.matchesL d fl tl = matchW (!d) fl tl := by
  obtain ⟨t, ts, rfl⟩ := List.exists_cons_of_ne_nil htl
  cases fl with
  | nil => rfl
  | cons f fs =>
    cases d
    · exact (matchW_true _ _).symm
    · rw [Spec.matchesL, matchW, Spec.matchLevels]
      by_cases h : f = [Spec.hash]
      · simp [h]
      · by_cases h' : f = [Spec.plus] <;> simp [h, h']

/-- `MQTTMatcher.iter_match`: on a well-formed trie whose keys are valid filters, the matches of a topic are exactly
the values of the stored filters the spec says match, each once. -/
theorem c11_iter (t : Node V) (topic : List UInt8)
    (hwf : WFN t) (hvalid : ∀ kv ∈ toList t, Spec.validLevels kv.1 = true)
    (htopic : NoWildLevel (splitTopic topic)) :
    (iterMatch t topic).Perm
      (((toList t).filter (fun kv => Spec.matchesL (Spec.isDollarTopic topic) kv.1 (splitTopic topic))).map (·.2)) := by
  have h := matchR_perm (!startsDollar topic) t (splitTopic topic) true hwf
    (fun kv hkv => hashOK_of_valid _ (hvalid kv hkv)) htopic
  rw [Bool.not_true, Bool.or_false] at h
  rw [iterMatch_eq_matchR, isDollarTopic_eq,
    List.filter_congr fun kv _ => matchesL_eq_matchW _ kv.1 _ (splitOn_ne_nil Gen.chSlash topic)]
  exact h

/-- `toList` is a faithful dictionary view: membership is `get`, keys are distinct -/
theorem c11_toList_get (t : Node V) (hwf : WFN t) (k : List Level) (v : V) :
    (k, v) ∈ toList t ↔ get k t = some v :=
  mem_toListN_iff k t v hwf

theorem c11_toList_nodup (t : Node V) (hwf : WFN t) : ((toList t).map (·.1)).Nodup :=
  keys_nodup t hwf

section
-- `hk : k ≠ []` (true of every real key: `splitTopic_ne_nil`) and `hwf` in places are not needed by the proofs
set_option linter.unusedVariables false

/-- refinement to a dictionary: insert -/
theorem c11_get_insert (t : Node V) (hwf : WFN t) (k k' : List Level) (v : V) :
    get k' (insert k v t) = if k' = k then some v else get k' t :=
  get_insert v k k' t

theorem c11_insert_wf (t : Node V) (hwf : WFN t) (k : List Level) (v : V) : WFN (insert k v t) :=
  insert_wf v k t hwf

theorem c11_insert_pruned (t : Node V) (hp : PrunedN t) (k : List Level) (v : V) (hk : k ≠ []) :
    PrunedN (insert k v t) :=
  insert_pruned v k t hp

/-- refinement to a dictionary: delete -/
theorem c11_get_delete (t t' : Node V) (hwf : WFN t) (k k' : List Level) (hk : k ≠ [])
    (hd : delete k t = some t') :
    get k' t' = if k' = k then none else get k' t :=
  get_delete k k' t t' hwf hd

theorem c11_delete_wf (t t' : Node V) (hwf : WFN t) (k : List Level) (hd : delete k t = some t') : WFN t' :=
  delete_wf k t t' hwf hd

theorem c11_delete_pruned (t t' : Node V) (hp : PrunedN t) (k : List Level) (hk : k ≠ [])
    (hd : delete k t = some t') : PrunedN t' :=
  delete_pruned k t t' hp hd

/-- deleting a stored key never raises KeyError -/
theorem c11_delete_stored (t : Node V) (k : List Level) (v : V) (h : get k t = some v) :
    ∃ t', delete k t = some t' :=
  delete_stored k t v h

/-- deleting a key that is not stored leaves the trie unchanged (whether or not KeyError is raised) -/
theorem c11_delete_absent (t : Node V) (hwf : WFN t) (hp : PrunedN t) (k : List Level) (hk : k ≠ [])
    (h : get k t = none) : delete k t = none ∨ delete k t = some t :=
  delete_absent k t hp h

end

/-- topic_matches_sub equals the spec relation for valid filters and wildcard-free topics -/
theorem c11_tms (sub topic : List UInt8) (hs : Spec.validLevels (splitTopic sub) = true)
    (ht : NoWildLevel (splitTopic topic)) :
    topicMatchesSub sub topic = Spec.matchesTopic sub topic := by
  have hl : toList (insert (splitTopic sub) true (empty : Node Bool)) = [(splitTopic sub, true)] :=
    toListN_insert_empty true (splitTopic sub) []
  have h := c11_iter _ topic (insert_wf true _ _ WFN_empty) (by rw [hl]; exact List.forall_mem_singleton.2 hs) ht
  rw [hl] at h
  rw [topicMatchesSub, h.isEmpty_eq]
  show _ = Spec.matchesL (Spec.isDollarTopic topic) (splitTopic sub) (splitTopic topic)
  cases hm : Spec.matchesL (Spec.isDollarTopic topic) (splitTopic sub) (splitTopic topic) <;> simp [hm]

theorem splitTopic_ne_nil (s : List UInt8) : splitTopic s ≠ [] :=
  splitOn_ne_nil _ _

theorem validTopic_noWild (t : List UInt8) (h : Spec.validTopic t = true) : NoWildLevel (splitTopic t) := by
  intro l hl
  simp only [Spec.validTopic, Bool.and_eq_true, Bool.not_eq_true', List.contains_eq_mem,
    decide_eq_false_iff_not] at h
  have hm := mem_splitOn _ _ l hl
  constructor
  · rintro rfl
    exact h.1 (hm Spec.plus List.mem_cons_self).1
  · rintro rfl
    exact h.2 (hm Spec.hash List.mem_cons_self).1

/-! ### non-vacuity: concrete tries (bytes: a=97 b=98 A=65 /=47 +=43 #=35 $=36 x=120) -/

section Examples

/-- the trie holding the filters `a/#` ↦ 1, `+/b` ↦ 2, `a/+` ↦ 3 (inserted in this order) -/
def exTrie : Node Nat :=
  insert (splitTopic [97, 47, 43]) 3
    (insert (splitTopic [43, 47, 98]) 2
      (insert (splitTopic [97, 47, 35]) 1 empty))

/-- the examples rewrite the well-founded model functions to their key-recursive `…R` forms, which the kernel
computes -/
theorem exTrie_eq : exTrie =
    insertR 3 (splitTopic [97, 47, 43]) (insertR 2 (splitTopic [43, 47, 98]) (insertR 1 (splitTopic [97, 47, 35]) empty)) := by
  simp only [exTrie, insert_eq_insertR]

theorem topicMatchesSub_eq (sub topic : List UInt8) : topicMatchesSub sub topic =
    !(matchR (!startsDollar topic) true (splitTopic topic) (insertR true (splitTopic sub) (empty : Node Bool))).isEmpty := by
  rw [topicMatchesSub, iterMatch_eq_matchR, insert_eq_insertR]

/-- `a/#` matches the topic `a` (parent level) -/
example : iterMatch exTrie [97] = [1] := by rw [iterMatch_eq_matchR, exTrie_eq]; decide +kernel
/-- `+/b` does not match `$x/b`, and nothing else does -/
example : iterMatch exTrie [36, 120, 47, 98] = [] := by rw [iterMatch_eq_matchR, exTrie_eq]; decide +kernel
/-- ... but `+/b` matches `x/b` -/
example : iterMatch exTrie [120, 47, 98] = [2] := by rw [iterMatch_eq_matchR, exTrie_eq]; decide +kernel
/-- `a/+` (and `a/#`) match `a/`, whose second level is empty -/
example : iterMatch exTrie [97, 47] = [3, 1] := by rw [iterMatch_eq_matchR, exTrie_eq]; decide +kernel
/-- matching is case sensitive: `A` is not `a` -/
example : iterMatch exTrie [65] = [] := by rw [iterMatch_eq_matchR, exTrie_eq]; decide +kernel
/-- all three match `a/b` -/
example : iterMatch exTrie [97, 47, 98] = [3, 1, 2] := by rw [iterMatch_eq_matchR, exTrie_eq]; decide +kernel

/-- the hypotheses of `c11_iter` hold of the example trie -/
example : WFN exTrie := insert_wf _ _ _ (insert_wf _ _ _ (insert_wf _ _ _ WFN_empty))
example : PrunedN exTrie := insert_pruned _ _ _ (insert_pruned _ _ _ (insert_pruned _ _ _ PrunedN_empty))
example : toList exTrie = [([[97], [35]], 1), ([[97], [43]], 3), ([[43], [98]], 2)] := by rw [exTrie_eq]; decide +kernel
example : ∀ kv ∈ toList exTrie, Spec.validLevels kv.1 = true := by
  rw [exTrie_eq]; decide +kernel
example : NoWildLevel (splitTopic [97, 47]) := by
  unfold NoWildLevel; decide

example : get (splitTopic [97, 47, 43]) exTrie = some 3 := by rw [get_eq_getR, exTrie_eq]; decide +kernel
example : get (splitTopic [97]) exTrie = none := by rw [get_eq_getR, exTrie_eq]; decide +kernel
example : delete (splitTopic [97]) exTrie = some exTrie := by rw [delete_eq_deleteR, exTrie_eq]; rfl
example : delete (splitTopic [98]) exTrie = none := by rw [delete_eq_deleteR, exTrie_eq]; rfl
example : (delete (splitTopic [43, 47, 98]) exTrie).map toList =
    some [([[97], [35]], 1), ([[97], [43]], 3)] := by rw [delete_eq_deleteR, exTrie_eq]; decide +kernel

example : Spec.matchesTopic [97, 47, 35] [97] = true := by decide +kernel
example : Spec.matchesTopic [43, 47, 98] [36, 120, 47, 98] = false := by decide +kernel
example : Spec.matchesTopic [43, 47, 98] [120, 47, 98] = true := by decide +kernel
example : Spec.matchesTopic [97, 47, 43] [97, 47] = true := by decide +kernel
example : Spec.matchesTopic [97] [65] = false := by decide +kernel
example : Spec.matchesTopic [35] [36, 120] = false := by decide +kernel
example : Spec.matchesTopic [36, 120, 47, 35] [36, 120] = true := by decide +kernel

example : topicMatchesSub [97, 47, 35] [97] = true := by
  rw [topicMatchesSub_eq]; decide +kernel
example : topicMatchesSub [43, 47, 98] [36, 120, 47, 98] = false := by
  rw [topicMatchesSub_eq]; decide +kernel
example : topicMatchesSub [97, 47, 43] [97, 47] = true := by
  rw [topicMatchesSub_eq]; decide +kernel
example : topicMatchesSub [97] [65] = false := by
  rw [topicMatchesSub_eq]; decide +kernel

/-- why `NoWildLevel` is needed in `c11_iter`/`c11_tms`: on the (invalid) topic `+` the model
reports the filter `+` twice -/
example : iterMatch (insert [[43]] 7 (empty : Node Nat)) [43] = [7, 7] := by
  rw [iterMatch_eq_matchR, insert_eq_insertR]; decide +kernel

end Examples

/-- T1: the five methods of `MQTTMatcher` the trie model follows statement by statement have the modelled statement structure
in the current source (no added fast path, counter or early return) - extracted on this run -/
theorem c11_matcher_shape : Gen.matcherShapeOk = true := rfl

end Paho
