/-
C10 — connection state and on_connect/on_disconnect contract; C16 — socket lifecycle callbacks;
C06 (TCP part) — outgoing byte stream under partial writes.
All hold of every history `ops : List Op`, of any length, from the initial state.
-/
import Paho.Model.Session
import Paho.Model.SessionInv
import PahoProofs.Lemmas.SessionDefs
import PahoProofs.Lemmas.SessionRefine3
import PahoProofs.Lemmas.SessionInvState
import PahoProofs.Lemmas.SessionInvLog
import PahoProofs.Lemmas.SessionInvConn
import PahoProofs.Lemmas.SessionDisc
import PahoProofs.Lemmas.SessionWakeup

namespace Paho

namespace SessAct

variable {v v' : View}

/-- `InvT` speaks of the socket callbacks, which are logged only when the application has installed them (`ext`). -/
structure InvAll (v : View) : Prop where
  s : InvS v
  l : InvL v
  c : InvC v
  t : v.ext = true → InvT v

theorem Act.invAll {k : Kind} (h : Act k v v') (hi : InvAll v) : InvAll v' :=
  have hl := h.invL hi.s hi.l
  { s := h.invS hi.s
    l := hl
    c := h.invC hl.evle hi.c
    t := fun hext =>
      have he : v.ext = true := h.ext_cfgOk_eq.1 ▸ hext
      h.invT he hi.s (hi.t he) }

theorem invAll_init (cfg : Cfg) (proto : Nat) (t : Nat) : InvAll (view (S.init cfg proto t)) where
  s := invS_of_noSock rfl nofun rfl rfl (List.forall_mem_nil _) (List.forall_mem_nil _) rfl
  l := ⟨fun _ h => absurd h List.not_mem_nil, (fun _ h => nomatch h), fun _ _ h => absurd h List.not_mem_nil,
    List.Pairwise.nil, fun _ _ => List.prefix_refl []⟩
  c := ⟨fun _ h => absurd h List.not_mem_nil, fun _ _ => ConnFirst_nil, fun _ _ h => nomatch h⟩
  t := fun _ => ⟨rfl, rfl, rfl, nofun⟩

theorem step_path (s : S) (op : Op) : StepPath (view s) (view (s.step op)) := by
  rcases step_tr s op with ⟨h | h, _⟩ | ⟨_, v1, ha, h⟩
  · exact .normal h
  · exact .reconn h
  · exact .disc v1 ha h

theorem run_trA (ops : List Op) (s : S) : TrA (view s) (view (s.run ops)) :=
  S.run_ind (P := fun x => TrA (view s) (view x)) (fun x op h => h.trans (step_path x op).toA) ops (Path.refl _)

theorem invAll_runFrom (cfg : Cfg) (proto : Nat) (ops : List Op) : InvAll (view (runFrom cfg proto ops)) :=
  (run_trA ops _).preserves Act.invAll (invAll_init cfg proto t0)

end SessAct

open SessAct

/-- is_connected() ⇒ the client holds an open socket on which a CONNACK accepted the connection -/
theorem c10_connected_sound (cfg : Cfg) (proto : Nat) (ops : List Op) :
    (runFrom cfg proto ops).invConnected = true :=
  invS_connected (invAll_runFrom cfg proto ops).s

/-- with an open socket: state DISCONNECTING ⇔ disconnect() was called on that connection -/
theorem c10_disconnecting_iff (cfg : Cfg) (proto : Nat) (ops : List Op) :
    (runFrom cfg proto ops).invDisconnecting = true :=
  invS_disconnecting (invAll_runFrom cfg proto ops).s

theorem step_disc (s : S) (op : Op) (hi : InvS (view s)) :
    stepDiscOk (newEvents s op) = true ∧
      ∀ rc, Ev.onDisconnect rc false ∈ newEvents s op → (rc = 0 ↔ s.discCalled = true ∨ op = .disconnect) := by
  rcases step_tr s op with ⟨h | h, hd⟩ | ⟨rfl, v1, ha, h⟩
  · obtain ⟨evs, hlog, hok, hrc, hnone⟩ := TrN.disc h hi
    rw [newEvents_eq hlog]
    refine ⟨hok, fun rc hmem => ?_⟩
    rw [hrc rc hmem]
    -- disconnect() without a socket reports nothing
    exact ⟨Or.inl, fun h => h.resolve_right fun hop => (hnone (hd hop)).1.notMem rc false hmem⟩
  · obtain ⟨evs, hlog, hsil⟩ := Disc.trQ_silent h
    rw [newEvents_eq hlog]
    refine ⟨?_, fun rc hmem => absurd hmem (hsil.notMem rc false)⟩
    rw [Disc.stepDiscOk_eq, hsil.nd, hsil.nc]
    rfl
  · obtain ⟨evs, hlog, hok, hrc, _⟩ := TrN.disc h (ha.invS hi)
    cases ha
    rw [newEvents_eq hlog]
    exact ⟨hok, fun rc hmem => ⟨fun _ => .inr rfl, fun _ => (hrc rc hmem).2 rfl⟩⟩

/-- in every step: the number of on_disconnect calls equals the number of connections that ended for a
reason other than connect()/reconnect() replacing them, and at most one connection ends that way -/
theorem c10_disc_once (cfg : Cfg) (proto : Nat) (ops : List Op) (op : Op) :
    stepDiscOk (newEvents (runFrom cfg proto ops) op) = true :=
  (step_disc _ op (invAll_runFrom cfg proto ops).s).1

/-- a client-generated on_disconnect reports success iff disconnect() had been called on that connection
(before this step, or this step is the disconnect() call itself) -/
theorem c10_disc_rc (cfg : Cfg) (proto : Nat) (ops : List Op) (op : Op) (rc : Nat) :
    let s := runFrom cfg proto ops
    Ev.onDisconnect rc false ∈ newEvents s op →
      (rc = 0 ↔ (s.discCalled = true ∨ op matches .disconnect)) := by
  intro s hmem
  rw [(step_disc s op (invAll_runFrom cfg proto ops).s).2 rc hmem]
  cases op <;> simp

/-- nothing is written on a connection after its socket was closed -/
theorem c10_no_tx_after_close (cfg : Cfg) (proto : Nat) (ops : List Op) (c : Nat) (i j : Nat) (b : Bytes) (r : Bool) :
    let log := (runFrom cfg proto ops).log
    log[i]? = some (.sclose c r) → log[j]? = some (.tx c b) → j < i :=
  invL_no_tx_after_close (invAll_runFrom cfg proto ops).l c i j b r

-- STATEMENT CHANGED: hypothesis `hcfg` added. As originally stated (no hypothesis) the theorem is FALSE: when the
-- CONNECT packet cannot be encoded (`struct.pack("!H", keepalive)` fails for keepalive > 65535, or the client id is
-- longer than 65535 bytes) `_send_connect` raises after the socket has been created, nothing is queued, and the next
-- packet handed to the connection is not a CONNECT. Counterexample (checked with `#eval`):
--   `(runFrom {keepalive := 70000} 4 [.connect true, .subscribe [97] 0]).log` contains, for connection 1, the single
--   queued packet `[130, 6, 0, 1, 0, 1, 97, 0]` (SUBSCRIBE, first byte 0x82 ≠ 0x10).
-- The hypothesis is exactly the condition under which `encConnect` succeeds for every protocol version.
/-- the first packet handed to every connection is CONNECT (first byte 0x10), and no second CONNECT follows -/
theorem c10_connect_first (cfg : Cfg) (proto : Nat) (ops : List Op) (c : Nat)
    (hcfg : cfg.keepalive ≤ 65535 ∧ cfg.clientId.length ≤ 65535) :
    let qs := (runFrom cfg proto ops).log.filterMap (fun e => match e with | .queued c' b => if c' = c then some b else none | _ => none)
    (∀ b, qs.head? = some b → b.head? = some 0x10) ∧ (qs.tail.all fun b => b.head? != some 0x10) = true := by
  have hok : (view (runFrom cfg proto ops)).cfgOk = true :=
    (run_trA ops _).ext_cfgOk_eq.2.trans (by simp [cfgOk, S.init, hcfg.1, hcfg.2])
  exact (invAll_runFrom cfg proto ops).c.first hok c

/-- whenever control returns to the application with an open socket and unsent data, a write
registration is outstanding -/
theorem c16_no_lost_wakeup (cfg : Cfg) (proto : Nat) (ops : List Op) :
    (runFrom cfg proto ops).invWakeup = true :=
  SessWake.wakeup_run cfg proto ops

theorem c16_reg_needs_socket (cfg : Cfg) (proto : Nat) (ops : List Op) :
    (runFrom cfg proto ops).invRegSock = true :=
  invS_regSock (invAll_runFrom cfg proto ops).s

/-- the socket callbacks are well nested (see `sockTraceOk`) -/
theorem c16_trace (cfg : Cfg) (proto : Nat) (ops : List Op) (hext : cfg.ext = true) :
    sockTraceOk (runFrom cfg proto ops).log = true :=
  ((invAll_runFrom cfg proto ops).t ((run_trA ops _).ext_cfgOk_eq.1.trans hext)).ok

/-- bytes accepted by the transport ++ bytes still pending = bytes of the packets queued on the open connection -/
theorem c06_stream (cfg : Cfg) (proto : Nat) (ops : List Op) :
    invStream (runFrom cfg proto ops) = true :=
  invL_stream (invAll_runFrom cfg proto ops).l

theorem c06_queue_shape (cfg : Cfg) (proto : Nat) (ops : List Op) :
    (runFrom cfg proto ops).invQueueShape = true :=
  invS_queueShape (invAll_runFrom cfg proto ops).s

/-- for every connection, open or closed: what reached the transport is a prefix of what was queued on it -/
theorem c06_prefix (cfg : Cfg) (proto : Nat) (ops : List Op) (c : Nat) :
    let log := (runFrom cfg proto ops).log
    txOf c log <+: queuedOf c log :=
  invL_prefix (invAll_runFrom cfg proto ops).l c

/-- want_write() ⇔ unsent bytes remain -/
theorem c06_want_write (cfg : Cfg) (proto : Nat) (ops : List Op) :
    let s := runFrom cfg proto ops
    s.wantWrite = true ↔ pendingBytes s.outq ≠ [] :=
  invS_wantWrite (invAll_runFrom cfg proto ops).s

/-! ## non-vacuity: concrete histories exercising the properties -/

/-- a history reaching `connected` (with an open, acknowledged socket) -/
example : (runFrom {} 4 [.connect true, .rx (.pkt (.connack false 0)) true]).cstate = .connected := by decide +kernel

/-- a history with an open socket and `disconnect()` called (DISCONNECT blocked in the queue) -/
example : (runFrom {} 4 [.connect true, .send [.block], .disconnect]).cstate = .disconnecting ∧
    (runFrom {} 4 [.connect true, .send [.block], .disconnect]).discCalled = true ∧
    (runFrom {} 4 [.connect true, .send [.block], .disconnect]).wantWrite = true := by decide +kernel

/-- a step in which a connection ends with exactly one on_disconnect (transport EOF) -/
example : Ev.onDisconnect 7 false ∈ newEvents (runFrom {} 4 [.connect true]) (.rx .eof true) := by decide +kernel

end Paho
