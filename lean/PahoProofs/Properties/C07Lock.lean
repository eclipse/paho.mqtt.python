/-
C07, section C — lock order: mutual exclusion and deadlock freedom of blocking acquisition under the rank discipline
extracted from the source, over all schedules; plus the extracted facts checked on this run.
-/
import Paho.Model.Threads
import PahoProofs.Lemmas.ThrLock
namespace Paho.Thr
open Paho

theorem c07_gen_facts :
    Gen.midGenUnderLock = true ∧ Gen.midGenShapeOk = true ∧ Gen.wakeAfterAppend = true ∧
    Gen.directWriteOnlyWithoutThread = true ∧ Gen.pushbackFront = true ∧ Gen.dequeMutatorsOk = true ∧
    Gen.loopOrderOk = true ∧ Gen.threadClearedAtExit = true := by decide
theorem c07_ranks_ok : ranksOk = true := by decide
theorem c07_accesses_guarded : accessesGuarded = true := by decide


/-- mutual exclusion: no lock is held by two threads -/
theorem c07_lock_mutex (n : Nat) (sched : List (Tid × LAct)) (t u : Tid) (l : LockId) :
    let s := (LockSys.init n).run sched
    t < n → u < n → s.holders l t = true → s.holders l u = true → t = u :=
  ((LInv.init n).run sched).mutex l t u

/-- deadlock freedom: as long as some thread has not finished, some thread can take a step -/
theorem c07_no_deadlock (n : Nat) (sched : List (Tid × LAct)) :
    let s := (LockSys.init n).run sched
    (∃ t, t < n ∧ (s.thr t).done = false) → ∃ t, s.canMove t = true :=
  ((LInv.init n).run sched).no_deadlock

/-- `canMove` means what it says: an action of that thread is enabled -/
theorem c07_canMove_enabled (n : Nat) (sched : List (Tid × LAct)) (t : Tid) :
    let s := (LockSys.init n).run sched
    s.canMove t = true → ∃ a, (s.step t a).isSome = true :=
  LockSys.canMove_enabled _ t

/-- every acquisition the source can make (extracted edges) is one the model's discipline admits -/
theorem c07_edges_disciplined : ∀ e ∈ Gen.lockEdges, disciplined [e.1] e.2 = true := by decide

-- non-vacuity: two threads contend for outMessage, then inCallback; the second is blocked until the first releases
example :
    let s := (LockSys.init 2).run [(0, .request .outMessage), (0, .grant), (1, .request .outMessage), (1, .grant),
      (0, .request .inCallback), (0, .grant), (0, .release), (0, .release), (1, .grant)]
    (s.thr 1).held = [.outMessage] ∧ (s.thr 0).held = [] ∧ s.canMove 0 = true := by decide

end Paho.Thr
