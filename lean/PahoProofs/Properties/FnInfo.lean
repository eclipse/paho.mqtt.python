/-
T1, translated: `MQTTMessageInfo.is_published()` - what the application observes of the completion flag and result that the
session theorems (C01: 'its MQTTMessageInfo reports published; neither happens earlier'; C06: 'a QoS 0 publish is reported
as sent only after its last byte was accepted') talk about. Translated from the AST of the current source by py/py2lean.py
(`Paho.Gen.FnInfo`, regenerated on every run).
-/
import Paho.Gen.FnInfo
import PahoProofs.Properties.C01

namespace Paho.FnEq
open Paho Paho.Gen.Fn

/-- `is_published()` on an `MQTTMessageInfo` of the model -/
def infoIsPublished (i : Info) : Except Exc Bool :=
  if i.rc = rcQueueSize then .error .valueError
  else if i.rc = rcAgain then .ok i.published
  else if i.rc > 0 then .error .runtimeError
  else .ok i.published

/-- **`MQTTMessageInfo.is_published` as the source has it now**, for every result code and flag: ValueError for a message
refused with MQTT_ERR_QUEUE_SIZE, RuntimeError for any other positive result code, otherwise the completion flag -/
theorem fn_isPublished (i : Info) : Gen.Fn.isPublished i.rc i.published = infoIsPublished i := by
  unfold Gen.Fn.isPublished infoIsPublished rcQueueSize rcAgain
  by_cases h1 : i.rc = 15
  · simp [h1, throw, throwThe, MonadExceptOf.throw, bind, Except.bind]
  by_cases h2 : i.rc = -1
  · simp [h2, pure, Except.pure]
  have e1 : (i.rc == 15) = false := by rw [beq_eq_false_iff_ne]; exact h1
  have e2 : (i.rc == -1) = false := by rw [beq_eq_false_iff_ne]; exact h2
  by_cases h3 : i.rc > 0
  · simp [h1, h2, h3, e1, e2, throw, throwThe, MonadExceptOf.throw, bind, Except.bind]
  · simp [h1, h2, h3, e1, e2, pure, Except.pure]

/-- what the final acknowledgement stores (rc = MQTT_ERR_SUCCESS, flag set: the `infoDone _ rcSuccess` event of
`c01_final_ack_rc`) makes `is_published()` return True, without raising - whatever `publish()` had stored before (F27) -/
theorem isPublished_after_final_ack :
    Gen.Fn.isPublished (Info.rc { rc := rcSuccess, published := true }) true = .ok true := by
  rw [show (true : Bool) = (Info.published { rc := rcSuccess, published := true }) from rfl, fn_isPublished]; rfl

/-- **not earlier**: in every reachable state, for every message the client still stores, `is_published()` on its
MQTTMessageInfo does not return True (it returns False, or raises for a message accepted without a connection) -/
theorem c01_is_published_not_early (cfg : Cfg) (proto : Nat) (ops : List Op) (m : OutMsg) (i : Info) :
    let s := runFrom cfg proto ops
    m ∈ s.out → s.infos[m.info]? = some i → Gen.Fn.isPublished i.rc i.published ≠ .ok true := by
  intro s hm hi
  have h := c01_not_early cfg proto ops m hm
  rw [hi] at h
  simp only [Option.map_some, Option.some.injEq] at h
  rw [fn_isPublished]
  unfold infoIsPublished
  rw [h]
  split
  · simp
  · split
    · simp
    · split <;> simp

/-- a message refused for queue reasons: `is_published()` raises ValueError -/
theorem isPublished_refused (p : Bool) : infoIsPublished { rc := rcQueueSize, published := p } = .error .valueError := by
  simp [infoIsPublished]

end Paho.FnEq
