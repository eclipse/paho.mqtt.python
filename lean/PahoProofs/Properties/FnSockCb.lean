/-
T1, translated: `Client._call_socket_register_write` / `_call_socket_unregister_write` - the bookkeeping behind C16 ("whenever
control returns with an open socket and unsent data a write registration is outstanding"; register / unregister strictly
alternate). Translated from the AST of the current source by py/py2lean.py (`Paho.Gen.FnSockCb`, regenerated on every run) and
proved equal to the session model's `callSocketRegisterWrite` / `callSocketUnregisterWrite`: in particular the flag
`_registered_write` changes BEFORE the user's callback runs, so that an API call made inside the callback sees the new value.
Then their callers `_sock_close` and `loop_write`.
-/
import Paho.Gen.FnSockCb
import PahoProofs.Properties.FnKeepalive

namespace Paho.FnEq
open Paho Paho.Py

/-- one step of the two helpers, executed on the model: the flag, and the user's callback as the model's socket-callback event -/
def runSk (s : S) : MEff → S
  | .setInt "_registered_write" v => { s with regWrite := (v != 0) }
  | .call "on_socket_register_write" [c] => s.emit (.skRegW (c - 1).toNat)
  | .call "on_socket_unregister_write" [c] => s.emit (.skUnregW (c - 1).toNat)
  | _ => s

/-- **`Client._call_socket_register_write` as the source has it now = the model's `callSocketRegisterWrite`** (callbacks that
do not raise; `on_socket_register_write` installed iff the model's external-loop flag is set): nothing without a socket or when
a registration is already outstanding; otherwise the flag is set first and then the callback is called with the socket -/
theorem fn_callSocketRegisterWrite (s : S) (now : Int) (sup : Bool) :
    ∃ effs, Gen.Fn.SockCb.callSocketRegisterWrite (sockId s.sock) s.regWrite s.cfg.ext sup now false = .ok effs ∧
      effs.foldl runSk s = s.callSocketRegisterWrite := by
  unfold Gen.Fn.SockCb.callSocketRegisterWrite S.callSocketRegisterWrite
  simp only [pure, Except.pure, List.nil_append, List.cons_append, Bool.false_eq_true, if_false, if_true]
  cases hs : s.sock with
  | none => exact ⟨[], rfl, rfl⟩
  | some c =>
    rw [sockId_bne c]
    cases s.regWrite with
    | true => exact ⟨[], rfl, rfl⟩
    | false =>
      cases s.cfg.ext with
      | true => exact ⟨_, rfl, by simp [runSk, sockId, hs]⟩
      | false => exact ⟨_, rfl, by simp [runSk, hs]⟩

/-- **`Client._call_socket_unregister_write(sock)` = the model's `callSocketUnregisterWrite`**: the socket is the one given or,
failing that, the current one; nothing without a socket or without an outstanding registration; otherwise the flag is cleared
first and then the callback is called with that socket -/
theorem fn_callSocketUnregisterWrite (s : S) (sock : Option Nat) (now : Int) (sup : Bool) :
    ∃ effs, Gen.Fn.SockCb.callSocketUnregisterWrite (sockId s.sock) s.regWrite s.cfg.ext sup now false (sockId sock) = .ok effs ∧
      effs.foldl runSk s = s.callSocketUnregisterWrite sock := by
  unfold Gen.Fn.SockCb.callSocketUnregisterWrite S.callSocketUnregisterWrite
  simp only [pure, Except.pure, List.nil_append, List.cons_append, Bool.false_eq_true, if_false]
  have hor : (if (sockId sock != 0) = true then sockId sock else sockId s.sock) = sockId (sock.or s.sock) := by
    cases sock with
    | none => rfl
    | some c => exact if_pos (sockId_bne c)
  rw [hor]
  cases sock.or s.sock with
  | none => exact ⟨[], rfl, rfl⟩
  | some c =>
    rw [sockId_bne c]
    cases s.regWrite with
    | false => exact ⟨[], rfl, rfl⟩
    | true =>
      cases s.cfg.ext with
      | true => exact ⟨_, rfl, by simp [runSk, sockId]⟩
      | false => exact ⟨_, rfl, by simp [runSk]⟩

/-- the steps of `_sock_close()` executed on the model: dropping the socket attribute (the model's ghost flags about the
connection go with it), the two helper calls, and the real close of the transport socket -/
def runClose (s : S) : MEff → S
  | .setInt "_sock" _ => { s with sock := none, ackd := false, discCalled := false }
  | .call "_call_socket_unregister_write" [c] => s.callSocketUnregisterWrite (some (c - 1).toNat)
  | .call "_call_socket_close" [c] =>
    -- `_call_socket_close`: `with self._in_callback_mutex` (blocking) around the callback
    if s.cfg.ext then (if s.inCb then s.emit (.deadlock "_in_callback_mutex") else s.emit (.skClose (c - 1).toNat)) else s
  | .call "close" [c] => s.emit (.sclose (c - 1).toNat false)
  | _ => s

/-- **`Client._sock_close` as the source has it now = the model's `sockClose`**: nothing without a socket; otherwise the
socket attribute is cleared FIRST (so that nothing reached from the callbacks can write to or close this socket again), then
the write registration is withdrawn, then on_socket_close runs, then the transport socket is really closed - the order C16's
trace theorem (`c16_trace`: no registration outstanding at close; open/close alternate) depends on -/
theorem fn_sockClose (s : S) (now : Int) :
    ∃ effs, Gen.Fn.SockCb.sockClose (sockId s.sock) now = .ok effs ∧ effs.foldl runClose s = s.sockClose := by
  unfold Gen.Fn.SockCb.sockClose S.sockClose
  simp only [pure, Except.pure, List.nil_append, List.cons_append]
  cases s.sock with
  | none => exact ⟨[], rfl, rfl⟩
  | some c =>
    rw [sockId_bne c]
    exact ⟨_, rfl, by simp [runClose, sockId]⟩

/-- the calls `loop_write()` makes, executed on the model -/
def runLW (s : S) : MEff → S
  | .call "_packet_write" [] => (s.packetWrite s.writeFuel).1
  | .call "_loop_rc_handle" [rc] => (s.loopRcHandle rc).1
  | .call "_call_socket_register_write" [] => s.callSocketRegisterWrite
  | .call "_call_socket_unregister_write" [] => s.callSocketUnregisterWrite none
  | _ => s

/-- **`Client.loop_write` as the source has it now = the model's `loopWrite`** (result code and effect on the client), the results of
the calls it makes being those of the model's functions at that point: MQTT_ERR_NO_CONN without a socket; otherwise
`_packet_write()`, whose MQTT_ERR_AGAIN becomes success and whose error goes through `_loop_rc_handle()`; and FINALLY, whatever
happened, the write registration is settled by what `want_write()` says THEN - register when unsent data remains, unregister
otherwise (C16: `c16_no_lost_wakeup`; seeded C16e and X51 changed this finally block) -/
theorem fn_loopWrite (s : S) (now : Int) :
    let p1 := s.packetWrite s.writeFuel
    let s2 := if p1.2 = rcAgain then p1.1 else if p1.2 > 0 then (p1.1.loopRcHandle p1.2).1 else p1.1
    ∃ rc effs, Gen.Fn.SockCb.loopWrite (sockId s.sock) now p1.2 (p1.1.loopRcHandle p1.2).2 s2.wantWrite = .ok (rc, effs) ∧
      (effs.foldl runLW s, rc) = s.loopWrite := by
  intro p1 s2
  unfold Gen.Fn.SockCb.loopWrite S.loopWrite
  simp only [pure, Except.pure, beq_iff_eq, decide_eq_true_eq]
  cases hs : s.sock with
  | none => exact ⟨_, _, rfl, rfl⟩
  | some c =>
    rw [if_neg (sockId_ne c)]
    -- the `finally` block, after the calls `l` have led to `t` with result `r`
    have fin (t : S) (l : List MEff) (r : RC) (hl : l.foldl runLW s = t) : ∃ rc effs,
        (if t.wantWrite = true then Except.ok (r, l ++ [MEff.call "_call_socket_register_write" []])
          else .ok (r, l ++ [.call "_call_socket_unregister_write" []])) = Except.ok (ε := Exc) (rc, effs) ∧
        (effs.foldl runLW s, rc) =
          (if t.wantWrite then t.callSocketRegisterWrite else t.callSocketUnregisterWrite none, r) := by
      cases t.wantWrite <;> exact ⟨_, _, rfl, by rw [List.foldl_append, hl]; simp only [List.foldl, runLW]; rfl⟩
    by_cases ha : p1.2 = -1
    · rw [show s2 = p1.1 from if_pos ha, if_pos ha, if_pos (show p1.2 = rcAgain from ha)]
      exact fin p1.1 _ 0 (by simp only [List.nil_append, List.foldl, runLW]; rfl)
    · rw [if_neg ha, if_neg (show ¬ p1.2 = rcAgain from ha)]
      by_cases hp : p1.2 > 0
      · rw [show s2 = (p1.1.loopRcHandle p1.2).1 from (if_neg ha).trans (if_pos hp), if_pos hp, if_pos hp]
        exact fin _ _ _ (by simp only [List.nil_append, List.cons_append, List.foldl, runLW]; rfl)
      · rw [show s2 = p1.1 from (if_neg ha).trans (if_neg hp), if_neg hp, if_neg hp]
        exact fin p1.1 _ 0 (by simp only [List.nil_append, List.foldl, runLW]; rfl)

end Paho.FnEq
