/-
T1, translated: the next back-off delay as `Client._reconnect_wait` computes it (the statements before the loop that
sleeps the delay away in slices), translated from the AST of the current source by py/py2lean.py (`Paho.Gen.FnBackoff`,
regenerated on every run), is the `delayNext` that the C09 theorems (delay formula, bounds, reset) are stated about.
-/
import Paho.Gen.FnBackoff
import Paho.Model.LoopForever

namespace Paho.FnEq
open Paho Paho.Py

/-- **the back-off arithmetic of `Client._reconnect_wait` as the source has it now = the automaton's `delayNext`**: for
every configuration, register and clock value the translated code stores `delayNext` in `_reconnect_delay` and sets out to
wait exactly that long - `min_delay` when the register is empty, otherwise `min(2 * delay, max_delay)` -/
theorem fn_reconnectWaitDelay (c : LF.Cfg) (d : Option Nat) (now : Int) :
    Gen.Fn.reconnectWaitDelay (d.map (fun x => (x : Int))) (c.minDelay : Int) (c.maxDelay : Int) now
      = .ok ((LF.delayNext c d : Int), some (LF.delayNext c d : Int)) := by
  -- the code computes `target_time - now`, `target_time = now + delay`
  cases d with
  | none =>
    show Except.ok (now + (c.minDelay : Int) - now, some (c.minDelay : Int)) = _
    rw [Int.add_comm, Int.add_sub_cancel]; rfl
  | some x =>
    have hm : min ((x : Int) * 2) (c.maxDelay : Int) = ((min (x * 2) c.maxDelay : Nat) : Int) := by omega
    show Except.ok (now + min ((x : Int) * 2) (c.maxDelay : Int) - now, some (min ((x : Int) * 2) (c.maxDelay : Int))) = _
    rw [Int.add_comm, Int.add_sub_cancel, hm]; rfl

end Paho.FnEq
