/-
C05Ws: WebSocket framing, receive side (`_WebsocketWrapper._recv_impl` / `_buffered_read`), for all lists of server
frames, all chunkings of the transport (would-block / EOF / error / empty chunks anywhere) and all request sizes.
The reply to a MASKED ping whose payload is read by more than one call is wrong in the code as it is (witness at the
end, found by T2 and by proof attempt); so the reply clauses assume `ctlUnmasked` (RFC 6455 5.1: a server MUST NOT mask).
-/
import PahoProofs.Lemmas.WsRecvRun
namespace Paho.Ws
open Paho

/-- **C05Ws (safety).** `frames`: any well-formed server frames; `q`: any transport whose bytes are a prefix of their
encoding (all of it, or cut anywhere), chunked in any way with would-block / EOF / error anywhere; `lens`: any request
sizes. After the calls:
* the bytes returned so far are a prefix of the payloads of the data frames, in order (nothing lost, duplicated,
  reordered or invented);
* each call returned at most what was asked, and never b'' when asked for ≥ 1 byte (b'' would read as EOF);
* if no PING/CLOSE is masked, the frames written to the raw socket are a prefix of the replies owed. -/
theorem ws_recv_stream (frames : List Frame) (hwf : ∀ f ∈ frames, f.wf) (q : List RecvItem)
    (hq : flat q <+: encs frames) (lens : List Nat) :
    delivered (runRecv {} q lens).results <+: dataOf frames ∧
    CallsOk lens (runRecv {} q lens).results ∧
    ((∀ f ∈ frames, f.ctlUnmasked) → (runRecv {} q lens).sent <+: owedAll frames) := by
  obtain ⟨done, fs', hsplit, _, hdata, hsent, hcalls, _⟩ := run_inv lens frames {} q (inv_init frames hwf q hq)
  rw [partialData_zero, List.nil_append] at hdata
  refine ⟨?_, hcalls, ?_⟩
  · rw [hdata, hsplit, dataOf_append]
    exact (List.prefix_append_right_inj _).mpr (partialData_prefix _ _)
  · intro hc
    rw [hsent (fun f hf => hc f (by rw [hsplit]; simp [hf])), hsplit, owedAll_append]
    exact List.prefix_append _ _

/-- the number of calls after which everything has been delivered -/
def callsNeeded (frames : List Frame) (q : List RecvItem) : Nat := q.length + (flat q).length + weight frames

/-- **C05Ws (liveness).** If the transport delivers the whole encoding of `frames` (chunked in any way, would-block
anywhere, anything after it), then `callsNeeded frames q` calls of any sizes ≥ 1 deliver exactly the payloads of the
data frames, send exactly the owed replies (given unmasked PING/CLOSE), and leave `_readbuffer` empty, `_payload_head`
0 and nothing undelivered on the socket. -/
theorem ws_recv_complete (frames : List Frame) (hwf : ∀ f ∈ frames, f.wf) (q : List RecvItem)
    (hq : flat q = encs frames) (lens : List Nat) (hpos : ∀ n ∈ lens, 1 ≤ n)
    (hlen : callsNeeded frames q ≤ lens.length) :
    delivered (runRecv {} q lens).results = dataOf frames ∧
    ((∀ f ∈ frames, f.ctlUnmasked) → (runRecv {} q lens).sent = owedAll frames) ∧
    (runRecv {} q lens).st.readbuffer = [] ∧ (runRecv {} q lens).st.payloadHead = 0 ∧
    flat (runRecv {} q lens).q = [] := by
  obtain ⟨done, fs', hsplit, hI, hdata, hsent, _, hcomp⟩ :=
    run_inv lens frames {} q (inv_init frames hwf q (hq ▸ List.prefix_refl _))
  rw [partialData_zero, List.nil_append] at hdata
  obtain ⟨hfull, hprog⟩ := hcomp hq
  have hnil : fs' = [] := by
    rcases hprog hpos with h | h
    · exact h
    · cases fs' with
      | nil => rfl
      | cons f rest =>
        -- `callsNeeded frames q` is `mu frames {} q`
        exact absurd (Nat.le_trans h hlen) (Nat.not_le_of_gt (Nat.lt_add_of_pos_left (mu_pos hI)))
  subst hnil
  have hdone : done = frames := by simpa using hsplit.symm
  subst hdone
  obtain ⟨hb, hfl⟩ := List.append_eq_nil_iff.mp hfull
  exact ⟨by simpa [partialData] using hdata, hsent, hb, hI.2.2, hfl⟩

/-- `_recv_impl` reports "closed" exactly together with `connected = False`; any other outcome leaves it alone -/
theorem ws_recv_closed (st : RecvSt) (q : List RecvItem) (n : Nat) :
    ((recvImpl st q n).2.2.1 = .closed → (recvImpl st q n).1.connected = false) ∧
    ((recvImpl st q n).2.2.1 ≠ .closed → (recvImpl st q n).1.connected = st.connected) := by
  cases hr : readHeader { buf := st.readbuffer, head := 0, q := q } with
  | block c => rw [recvImpl_hdr_block st q n hr]; exact ⟨(fun h => by cases h), fun _ => rfl⟩
  | closed c => rw [recvImpl_hdr_closed st q n hr]; exact ⟨fun _ => rfl, fun h => absurd rfl h⟩
  | ok h c =>
    cases hr2 : readPayload h st.payloadHead (rIdx st n h.plen) c with
    | block c => rw [recvImpl_pl_block st q n hr hr2]; exact ⟨(fun h => by cases h), fun _ => rfl⟩
    | closed c => rw [recvImpl_pl_closed st q n hr hr2]; exact ⟨fun _ => rfl, fun h => absurd rfl h⟩
    | ok x c =>
      obtain ⟨p, r, ph⟩ := x
      rw [recvImpl_pl_ok st q n hr hr2]
      by_cases hc : (h.opcode = 2 ∨ h.opcode = 0) ∧ h.plen > 0
      · rw [if_pos hc]; split <;> exact ⟨(fun h => by cases h), fun _ => rfl⟩
      · rw [if_neg hc]; split <;> exact ⟨(fun h => by cases h), fun _ => rfl⟩

/-! ### non-vacuity: a concrete stream -/

/-- masked BINARY "abc" (FIN clear), unmasked PING "hi", unmasked CONTINUATION of 2 bytes in the 16-bit length form,
unmasked CLOSE with an empty payload -/
def exFrames : List Frame :=
  [⟨0x02, 0, some [1, 2, 3, 4], [0x61, 0x62, 0x63]⟩, ⟨0x89, 0, none, [0x68, 0x69]⟩, ⟨0x80, 1, none, [0x64, 0x65]⟩,
   ⟨0x88, 0, none, []⟩]

theorem exFrames_wf : ∀ f ∈ exFrames, f.wf := by decide

/-- the stream cut into chunks inside the first header, inside the mask key, inside a payload, with would-block -/
def exQueue : List RecvItem :=
  [.data [0x02], .eagain, .data [0x83, 1, 2], .data [3, 4, 0x60], .eagain, .data [0x60, 0x60, 0x89, 0x02, 0x68],
   .data [0x69, 0x80, 126, 0, 2, 0x64, 0x65, 0x88, 0]]

example : flat exQueue = encs exFrames := by decide +kernel

example : (∀ f ∈ exFrames, f.ctlUnmasked) := by decide +kernel

/-- 12 calls of sizes 1, 2, 5 (10 would do) deliver "abc" ++ "de" and answer the PING and the CLOSE (`callsNeeded` is a generous bound) -/
example :
    let r := runRecv {} exQueue [1, 1, 1, 5, 2, 1, 1, 1, 1, 5, 5, 5]
    delivered r.results = [0x61, 0x62, 0x63, 0x64, 0x65] ∧ delivered r.results = dataOf exFrames ∧
    r.sent = [[0x8a, 2, 0x68, 0x69], [0x88, 0]] ∧ r.sent = owedAll exFrames ∧
    r.results = [.wouldBlock, .wouldBlock, .data [0x61], .wouldBlock, .data [0x62, 0x63], .wouldBlock, .wouldBlock,
                 .data [0x64], .data [0x65], .wouldBlock, .wouldBlock, .wouldBlock] ∧
    r.st = {} ∧ r.q = [] := by
  decide +kernel

/-- a masked PING with payload 01 02 (a server must not send this, the code accepts it) -/
def maskedPing : Frame := ⟨0x89, 0, some [0x10, 0x20, 0x30, 0x40], [1, 2]⟩

/-- **Witness.** The frame arrives in one piece; the application reads with `recv(1)`, `recv(1)` (as `_packet_read`
does for the command byte). The PONG carries 11 02 — the first byte still masked — instead of 01 02. With one
`recv(2)` the PONG is right. -/
theorem ws_recv_masked_ping_reply_wrong :
    (runRecv {} [.data maskedPing.enc] [1, 1]).sent = [[0x8a, 2, 0x11, 2]] ∧
    maskedPing.owed = [[0x8a, 2, 1, 2]] ∧
    (runRecv {} [.data maskedPing.enc] [2]).sent = [[0x8a, 2, 1, 2]] := by
  decide +kernel

/-- hence the reply clause of `ws_recv_stream` / `ws_recv_complete` does not hold without `ctlUnmasked` -/
theorem ws_recv_reply_claim_false_for_masked :
    ¬ (∀ (frames : List Frame), (∀ f ∈ frames, f.wf) → ∀ (q : List RecvItem), flat q = encs frames →
        ∀ (lens : List Nat), (∀ n ∈ lens, 1 ≤ n) → (runRecv {} q lens).sent <+: owedAll frames) := by
  intro h
  have := h [maskedPing] (by decide) [.data maskedPing.enc]
    (by decide) [1, 1] (by decide)
  revert this
  decide +kernel

end Paho.Ws
