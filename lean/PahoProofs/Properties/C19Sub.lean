/-
C19 — subscribe() / unsubscribe(): the calling conventions are normalised and rejected exactly per the MQTT grammar.
The statements are about `Paho.Sub.normalize` / `Paho.unsubNormalize`, the model of the code up to `if self._sock is None`.
-/
import Paho.Model.SubArgs
import PahoProofs.Properties.C19

namespace Paho
open _root_.Paho.Sub

variable {ω : Type}

theorem ite_error_eq_ok {ε α : Type} {c : Prop} [Decidable c] {e : ε} {r : Except ε α} {x : α} :
    (if c then .error e else r) = .ok x ↔ ¬ c ∧ r = .ok x := by
  split <;> simp [*]

theorem map_eq_ok {ε α β : Type} {f : α → β} {r : Except ε α} {y : β} :
    r.map f = .ok y ↔ ∃ x, r = .ok x ∧ f x = y := by
  cases r <;> simp [Except.map]

theorem ok_eq_ok_iff {ε α : Type} {a b : α} : (Except.ok a : Except ε α) = .ok b ↔ b = a :=
  ⟨fun h => (Except.ok.inj h).symm, fun h => h ▸ rfl⟩

theorem qosBadStr_iff (q : Int) : qosBadStr q = true ↔ ¬ (0 ≤ q ∧ q ≤ 2) := qosBad_iff q

theorem qosBadL5_iff (q : Int) : qosBadL5 q = true ↔ ¬ (0 ≤ q ∧ q ≤ 2) := qosBad_iff q

theorem qosBadL3_iff (q : Int) : qosBadL3 q = true ↔ ¬ (0 ≤ q ∧ q ≤ 2) := qosBad_iff q

/-- every `len(x) == 0` test of `subscribe()` / `unsubscribe()` (the extracted comparison is `.eq`, the literal `0`) -/
theorem evalNat_eq_zero {α : Type} (l : List α) : Cmp.evalNat .eq l.length 0 = true ↔ l = [] := by
  rw [Cmp.evalNat, decide_eq_true_eq, List.length_eq_zero_iff]

/-! ### specification side: what a call asks for, written without reference to the control flow of the code -/

/-- an `int` must be a QoS; a `SubscribeOptions` object is only meaningful for MQTT 5 -/
def Second.ok (proto : Nat) : Second ω → Prop
  | .int q => 0 ≤ q ∧ q ≤ 2
  | .opts _ => proto = 5

/-- what the client will put on the wire for a requested second component -/
def Entry.ofSecond : Second ω → Entry ω
  | .int q => .qos q.toNat
  | .opts o => .opts o

/-- the request of the string form: MQTT 5 with `options=o` asks for `o`, everything else for the QoS -/
def Sub.strSecond (proto : Nat) (qos : Int) : OptArg ω → Second ω
  | .opts o => if proto = 5 then .opts o else .int qos
  | _ => .int qos

/-- the (filter, request) pairs a call denotes: the documented reading of the calling conventions -/
def Sub.pairs (proto : Nat) : TopicForm ω → Int → OptArg ω → List (Bytes × Second ω)
  | .str t, qos, options => [(t, Sub.strSecond proto qos options)]
  | .tuple t (.opts o), _, _ => [(t, .opts o)]
  | .tuple t (.int q), _, _ => [(t, .int q)]
  | .list l, _, _ => l
  | .none, _, _ => []

/-- MQTT 5: `options` is absent, or a `SubscribeOptions` object not combined with a non-zero `qos` -/
def Sub.OptOk (qos : Int) : OptArg ω → Prop
  | .none => True
  | .opts _ => qos = 0
  | .other => False

/-- single-filter forms -/
def Sub.StrOk (proto : Nat) (t : Bytes) (qos : Int) (options : OptArg ω) : Prop :=
  0 ≤ qos ∧ qos ≤ 2 ∧ Spec.validFilter t = true ∧ (proto = 5 → Sub.OptOk qos options)

/-- the calls `subscribe()` must accept -/
def Sub.Accept (proto : Nat) : TopicForm ω → Int → OptArg ω → Prop
  | .str t, qos, options => Sub.StrOk proto t qos options
  | .tuple t (.opts o), qos, _ => proto = 5 ∧ Sub.StrOk proto t qos (.opts o)
  | .tuple t (.int q), _, options => proto ≠ 5 ∧ Sub.StrOk proto t q options
  | .list l, _, _ => l ≠ [] ∧ ∀ e ∈ l, Spec.validFilter e.1 = true ∧ Second.ok proto e.2
  | .none, _, _ => False

/-- what the string branch decides before the filter check -/
def Sub.StrShape (proto : Nat) (t : Bytes) (qos : Int) (options : OptArg ω) : Prop :=
  (0 ≤ qos ∧ qos ≤ 2) ∧ if proto = 5 then Sub.OptOk qos options else t ≠ []

/-! ### code side: when each stage returns `.ok` -/

section
variable {proto : Nat} {t : Bytes} {q qos : Int} {o : ω} {options : OptArg ω} {topic : TopicForm ω}
  {r : List (Bytes × Second ω)} {l : List (Bytes × Entry ω)}

theorem listV5_opts :
    listV5 ((t, .opts o) :: r) = (listV5 r).map ((t, .opts o) :: ·) := by
  rw [listV5]; cases listV5 r <;> rfl

theorem listV5_int :
    listV5 ((t, .int q) :: r) =
      if ¬ (0 ≤ q ∧ q ≤ 2) then .error .valueError else (listV5 r).map ((t, .qos q.toNat) :: ·) := by
  simp only [listV5, qosBadL5_iff]; cases listV5 r <;> rfl

theorem listV3_int :
    listV3 ((t, .int q) :: r) =
      if ¬ (0 ≤ q ∧ q ≤ 2) then .error .valueError
      else if t = [] then .error .valueError
      else (listV3 r).map ((t, .qos q.toNat) :: ·) := by
  simp only [listV3, qosBadL3_iff, Gen.subL3EmptyCmp, Gen.subL3EmptyLen, evalNat_eq_zero]; cases listV3 r <;> rfl

/-- one round of the loop over a list argument, for both protocol versions at once -/
theorem listV_cons_ok {x : Second ω} :
    (if proto = 5 then listV5 ((t, x) :: r) else listV3 ((t, x) :: r)) = .ok l ↔
      (Second.ok proto x ∧ (proto ≠ 5 → t ≠ [])) ∧
        ∃ l', (if proto = 5 then listV5 r else listV3 r) = .ok l' ∧ (t, Entry.ofSecond x) :: l' = l := by
  by_cases hp : proto = 5
  · have hx : (Second.ok proto x ∧ (proto ≠ 5 → t ≠ [])) ↔ Second.ok 5 x :=
      hp ▸ and_iff_left fun h => absurd rfl h
    rw [if_pos hp, if_pos hp, hx]
    cases x with
    | opts o => rw [listV5_opts, map_eq_ok]; exact (and_iff_right rfl).symm
    | int q => rw [listV5_int, ite_error_eq_ok, map_eq_ok, Decidable.not_not]; rfl
  · rw [if_neg hp, if_neg hp, imp_iff_right hp]
    cases x with
    | opts o => rw [listV3]; exact ⟨nofun, fun h => absurd h.1.1 hp⟩
    | int q =>
      rw [listV3_int, ite_error_eq_ok, ite_error_eq_ok, map_eq_ok, Decidable.not_not]
      exact and_assoc.symm

theorem listV_ok_iff (r : List (Bytes × Second ω)) :
    (if proto = 5 then listV5 r else listV3 r) = .ok l ↔
      ((∀ e ∈ r, Second.ok proto e.2 ∧ (proto ≠ 5 → e.1 ≠ [])) ∧ l = r.map (fun e => (e.1, Entry.ofSecond e.2))) := by
  induction r generalizing l with
  | nil =>
    show (if proto = 5 then Except.ok [] else Except.ok []) = _ ↔ _
    rw [ite_self, ok_eq_ok_iff]
    exact (and_iff_right nofun).symm
  | cons e r ih =>
    rw [listV_cons_ok, List.forall_mem_cons, List.map_cons]
    constructor
    · rintro ⟨he, l', hl', rfl⟩
      obtain ⟨h, rfl⟩ := ih.1 hl'
      exact ⟨⟨he, h⟩, rfl⟩
    · rintro ⟨⟨he, h⟩, rfl⟩
      exact ⟨he, _, ih.2 ⟨h, rfl⟩, rfl⟩

theorem ofSecond_strSecond (hp : proto ≠ 5) :
    Entry.ofSecond (Sub.strSecond proto qos options) = .qos qos.toNat := by
  cases options <;> simp only [Sub.strSecond, if_neg hp, Entry.ofSecond]

theorem strBranch_ok_iff :
    strBranch proto t qos options = .ok l ↔
      (Sub.StrShape proto t qos options ∧ l = [(t, Entry.ofSecond (Sub.strSecond proto qos options))]) := by
  unfold strBranch
  rw [ite_error_eq_ok, qosBadStr_iff, Decidable.not_not, Sub.StrShape]
  refine (and_congr_right fun _ => ?_).trans and_assoc.symm
  by_cases hp : proto = 5
  · rw [if_pos hp, if_pos hp]
    cases options with
    | none => exact ok_eq_ok_iff.trans (iff_of_eq (true_and _)).symm
    | opts o =>
      rw [Sub.strSecond, if_pos hp]
      exact ite_error_eq_ok.trans (and_congr Decidable.not_not ok_eq_ok_iff)
    | other => exact ⟨nofun, fun h => h.1.elim⟩
  · rw [if_neg hp, if_neg hp, ofSecond_strSecond hp, ite_error_eq_ok, ok_eq_ok_iff]
    exact and_congr_left' (not_congr (evalNat_eq_zero t))

theorem validFilter_ne_nil {t : Bytes} (h : Spec.validFilter t = true) : t ≠ [] := by
  rintro rfl; cases h

theorem normalize_ok_iff_collect :
    normalize proto topic qos options = .ok l ↔
      (collect proto topic qos options = .ok l ∧ ∀ e ∈ l, Spec.validFilter e.1 = true) := by
  have hall : ∀ l' : List (Bytes × Entry ω),
      ¬ l'.any (fun e => !filterCheck e.1) = true ↔ ∀ e ∈ l', Spec.validFilter e.1 = true := fun l' => by
    simp only [List.any_eq_true, c19_filter, Bool.not_eq_true', not_exists, not_and, Bool.not_eq_false]
  unfold normalize
  cases collect proto topic qos options with
  | error e => exact ⟨nofun, fun h => nomatch h.1⟩
  | ok l' =>
    rw [ite_error_eq_ok, hall, ok_eq_ok_iff, and_comm]
    exact and_congr_right fun h => h ▸ Iff.rfl

/-- a valid filter is not empty, so after the filter check the emptiness test of MQTT 3 adds nothing -/
theorem strBranch_valid_iff :
    (strBranch proto t qos options = .ok l ∧ ∀ e ∈ l, Spec.validFilter e.1 = true) ↔
      (Sub.StrOk proto t qos options ∧ l = [(t, Entry.ofSecond (Sub.strSecond proto qos options))]) := by
  rw [strBranch_ok_iff, Sub.StrOk, Sub.StrShape]
  constructor
  · rintro ⟨⟨⟨hq, ho⟩, rfl⟩, hv⟩
    exact ⟨⟨hq.1, hq.2, hv _ List.mem_cons_self, fun hp => (if_pos hp ▸ ho :)⟩, rfl⟩
  · rintro ⟨⟨h0, h2, hv, ho⟩, rfl⟩
    refine ⟨⟨⟨⟨h0, h2⟩, ?_⟩, rfl⟩, List.forall_mem_singleton.2 hv⟩
    split
    · exact ho ‹_›
    · exact validFilter_ne_nil hv

theorem normalize_ok_iff :
    normalize proto topic qos options = .ok l ↔
      (Sub.Accept proto topic qos options ∧
        l = (Sub.pairs proto topic qos options).map (fun e => (e.1, Entry.ofSecond e.2))) := by
  rw [normalize_ok_iff_collect]
  cases topic with
  | none => exact ⟨fun h => (nomatch h.1), fun h => h.1.elim⟩
  | str t => exact strBranch_valid_iff
  | tuple t x =>
    cases x with
    | opts o =>
      rw [collect, ← ite_not, ite_error_eq_ok, Decidable.not_not, and_assoc]
      exact (and_congr_right fun hp => strBranch_valid_iff.trans (by rw [Sub.strSecond, if_pos hp]; rfl)).trans
        and_assoc.symm
    | int q =>
      rw [collect, ite_error_eq_ok, and_assoc]
      exact (and_congr_right fun hp => strBranch_valid_iff.trans (by rw [ofSecond_strSecond hp]; rfl)).trans
        and_assoc.symm
  | list ls =>
    rw [collect, ite_error_eq_ok, listV_ok_iff]
    constructor
    · rintro ⟨⟨hne, hall, rfl⟩, hv⟩
      exact ⟨⟨mt (evalNat_eq_zero ls).2 hne, fun e he => ⟨List.forall_mem_map.1 hv e he, (hall e he).1⟩⟩, rfl⟩
    · rintro ⟨⟨hne, hall⟩, rfl⟩
      exact ⟨⟨mt (evalNat_eq_zero ls).1 hne, fun e he => ⟨(hall e he).2, fun _ => validFilter_ne_nil (hall e he).1⟩, rfl⟩,
        List.forall_mem_map.2 fun e he => (hall e he).1⟩

end

/-- whatever `subscribe()` hands to `_send_subscribe` is, filter for filter and in order, what the call asked for:
the filters unchanged, an `int` QoS kept, a `SubscribeOptions` object passed through -/
theorem c19_subscribe_result (proto : Nat) (topic : TopicForm ω) (qos : Int) (options : OptArg ω)
    (l : List (Bytes × Entry ω)) (h : normalize proto topic qos options = .ok l) :
    l = (Sub.pairs proto topic qos options).map (fun e => (e.1, Entry.ofSecond e.2)) :=
  (normalize_ok_iff.1 h).2

/-- `subscribe()` accepts a call exactly when it is one of the documented forms, names at least one filter, every
filter is allowed by the MQTT grammar and every requested QoS lies in 0..2 - for ALL byte strings -/
theorem c19_subscribe_accept_iff (proto : Nat) (topic : TopicForm ω) (qos : Int) (options : OptArg ω) :
    (∃ l, normalize proto topic qos options = .ok l) ↔ Sub.Accept proto topic qos options :=
  ⟨fun ⟨_, h⟩ => (normalize_ok_iff.1 h).1, fun h => ⟨_, normalize_ok_iff.2 ⟨h, rfl⟩⟩⟩

/-- an accepted call names at least one filter (so the SUBSCRIBE packet has a payload, MQTT-3.8.3-3) and every
filter handed to the encoder is allowed by the grammar -/
theorem c19_subscribe_nonempty (proto : Nat) (topic : TopicForm ω) (qos : Int) (options : OptArg ω)
    (l : List (Bytes × Entry ω)) (h : normalize proto topic qos options = .ok l) :
    l ≠ [] ∧ ∀ e ∈ l, Spec.validFilter e.1 = true := by
  refine ⟨?_, (normalize_ok_iff_collect.1 h).2⟩
  obtain ⟨ha, rfl⟩ := normalize_ok_iff.1 h
  cases topic with
  | none => exact ha.elim
  | str t => simp [Sub.pairs]
  | tuple t x => cases x <;> simp [Sub.pairs]
  | list ls => simpa [Sub.pairs] using ha.1

def OnlyValueError {α : Type} (r : Except Exc α) : Prop := ∀ e, r = .error e → e = .valueError

theorem OnlyValueError.ok {α : Type} (x : α) : OnlyValueError (.ok x) := nofun

theorem OnlyValueError.error {α : Type} : OnlyValueError (.error .valueError : Except Exc α) :=
  fun _ h => (Except.error.inj h).symm

theorem OnlyValueError.map {α β : Type} {r : Except Exc α} (h : OnlyValueError r) (f : α → β) :
    OnlyValueError (r.map f) := by
  cases r with
  | ok x => exact .ok _
  | error e => exact fun e' he => h e' (congrArg _ (Except.error.inj he))

theorem strBranch_error (proto : Nat) (t : Bytes) (qos : Int) (options : OptArg ω) :
    OnlyValueError (strBranch proto t qos options) := by
  unfold strBranch
  refine ite_elim .error (ite_elim ?_ (ite_elim .error (.ok _)))
  cases options with
  | none => exact .ok _
  | opts o => exact ite_elim .error (.ok _)
  | other => exact .error

theorem listV5_error : ∀ l : List (Bytes × Second ω), OnlyValueError (listV5 l)
  | [] => .ok _
  | (_, .opts _) :: r => listV5_opts ▸ (listV5_error r).map _
  | (_, .int _) :: r => listV5_int ▸ ite_elim .error ((listV5_error r).map _)

theorem listV3_error : ∀ l : List (Bytes × Second ω), OnlyValueError (listV3 l)
  | [] => .ok _
  | (_, .opts _) :: _ => .error
  | (_, .int _) :: r => listV3_int ▸ ite_elim .error (ite_elim .error ((listV3_error r).map _))

/-- every rejection by `subscribe()` is a ValueError - except the undocumented MQTT 3 call
`subscribe((topic, SubscribeOptions))`, where comparing the options object with 0 raises TypeError -/
theorem c19_subscribe_errors (proto : Nat) (topic : TopicForm ω) (qos : Int) (options : OptArg ω) (e : Exc)
    (h : normalize proto topic qos options = .error e) :
    e = .valueError ∨ (e = .typeError ∧ proto ≠ 5 ∧ ∃ t o, topic = .tuple t (.opts o)) := by
  unfold normalize at h
  cases hc : collect proto topic qos options with
  | ok l' =>
    rw [hc] at h
    exact .inl (ite_elim (S := OnlyValueError) .error (.ok _) e h)
  | error e' =>
    rw [hc] at h
    cases h
    cases topic with
    | none => exact .inl (OnlyValueError.error e hc)
    | str t => exact .inl (strBranch_error proto t qos options e hc)
    | list ls => exact .inl (ite_elim (S := OnlyValueError) .error (ite_elim (listV5_error ls) (listV3_error ls)) e hc)
    | tuple t x =>
      cases x with
      | int q => exact .inl (ite_elim (S := OnlyValueError) .error (strBranch_error proto t q options) e hc)
      | opts o =>
        by_cases hp : proto = 5
        · rw [collect, if_pos hp] at hc
          exact .inl (strBranch_error proto t qos (.opts o) e hc)
        · rw [collect, if_neg hp] at hc
          cases hc
          exact .inr ⟨rfl, hp, t, o, rfl⟩

/-- `unsubscribe()` accepts exactly a non-empty string or a NON-EMPTY list of non-empty strings, hands them on
unchanged and in order, and every rejection is a ValueError (the empty list is refused since the F36 repair: an
UNSUBSCRIBE packet must carry at least one topic filter, MQTT-3.10.3-2) -/
theorem c19_unsubscribe_accept_iff (f : UnsubForm) (l : List Bytes) :
    unsubNormalize f = .ok l ↔
      ((∃ t, f = .str t ∧ t ≠ [] ∧ l = [t]) ∨ (f = .list l ∧ l ≠ [] ∧ ∀ t ∈ l, t ≠ [])) := by
  cases f with
  | none | other => exact ⟨nofun, fun h => h.elim (fun ⟨_, h, _⟩ => nomatch h) (fun ⟨h, _⟩ => nomatch h)⟩
  | str t =>
    rw [unsubNormalize, ite_error_eq_ok, ok_eq_ok_iff]
    simp only [UnsubForm.str.injEq, exists_eq_left', reduceCtorEq, false_and, or_false]
    exact and_congr_left' (not_congr (evalNat_eq_zero t))
  | list ls =>
    have hany : ¬ (ls.any fun t => Gen.unsubElemEmptyCmp.evalNat t.length Gen.unsubElemEmptyLen) = true ↔
        ∀ t ∈ ls, t ≠ [] := by
      rw [List.any_eq_true, not_exists]
      exact forall_congr' fun t => not_and.trans (imp_congr_right fun _ => not_congr (evalNat_eq_zero t))
    rw [unsubNormalize, ite_error_eq_ok, ite_error_eq_ok, ok_eq_ok_iff, hany]
    simp only [reduceCtorEq, false_and, exists_false, false_or, UnsubForm.list.injEq]
    constructor
    · rintro ⟨hne, hall, rfl⟩
      exact ⟨rfl, mt (evalNat_eq_zero _).2 hne, hall⟩
    · rintro ⟨rfl, hne, hall⟩
      exact ⟨mt (evalNat_eq_zero _).1 hne, hall, rfl⟩

theorem c19_unsubscribe_errors (f : UnsubForm) (e : Exc) (h : unsubNormalize f = .error e) : e = .valueError := by
  refine (?_ : OnlyValueError (unsubNormalize f)) e h
  cases f with
  | none | other => exact .error
  | str t => exact ite_elim .error (.ok _)
  | list l => exact ite_elim .error (ite_elim .error (.ok _))

theorem c19_unsubscribe_nonempty (f : UnsubForm) (l : List Bytes) (h : unsubNormalize f = .ok l) : l ≠ [] := by
  rcases (c19_unsubscribe_accept_iff f l).1 h with ⟨t, _, _, rfl⟩ | ⟨_, hne, _⟩
  · exact List.cons_ne_nil _ _
  · exact hne

/-! non-vacuity ('a'=97 '/'=47 '+'=43 '#'=35) -/
example : normalize (ω := Unit) 4 (.str [97, 47, 35]) 1 .none = .ok [([97, 47, 35], .qos 1)] := by rfl
example : normalize (ω := Unit) 5 (.str [97]) 0 (.opts ()) = .ok [([97], .opts ())] := by rfl
example : normalize (ω := Unit) 5 (.str [97]) 1 (.opts ()) = .error .valueError := by rfl
example : normalize (ω := Unit) 5 (.tuple [97] (.opts ())) 0 .none = .ok [([97], .opts ())] := by rfl
example : normalize (ω := Unit) 4 (.tuple [97] (.int 2)) 0 .none = .ok [([97], .qos 2)] := by rfl
example : normalize (ω := Unit) 4 (.tuple [97] (.int 3)) 0 .none = .error .valueError := by rfl
example : normalize (ω := Unit) 4 (.list [([97], .int 0), ([43], .int 2)]) 0 .none
    = .ok [([97], .qos 0), ([43], .qos 2)] := by rfl
example : normalize (ω := Unit) 5 (.list [([97], .int 1), ([35], .opts ())]) 0 .none
    = .ok [([97], .qos 1), ([35], .opts ())] := by rfl
example : normalize (ω := Unit) 4 (.list [([97], .int 0), ([97, 43], .int 2)]) 0 .none = .error .valueError := by rfl
example : normalize (ω := Unit) 4 (.list []) 0 .none = .error .valueError := by rfl
example : normalize (ω := Unit) 4 (.tuple [97] (.opts ())) 0 .none = .error .typeError := by rfl
example : unsubNormalize (.list []) = .error .valueError := by rfl
example : unsubNormalize (.list [[97], [98]]) = .ok [[97], [98]] := by rfl
example : unsubNormalize (.str []) = .error .valueError := by rfl

end Paho
