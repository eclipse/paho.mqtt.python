/-
C08 — keep-alive: pings when idle, detects a dead peer, never drops a live one (virtual time, milliseconds).
STATEMENTS TO PROVE. Model: Paho/Model/Session.lean (`checkKeepalive`, `loopMisc`, `sendSimple`, `packetQueue`,
`loopWrite`, `S.step (.tick ms)`, `reconnect` resetting the timers, `packetHandle .pingresp` clearing `pingT`).
`Gen.kaOutCmp = Gen.kaInCmp = Gen.kaPingCmp = .ge` are extracted from the source (the `>=` tests).
-/
import Paho.Model.Session
import Paho.Model.SessionInv
import PahoProofs.Lemmas.SessionDefs
import PahoProofs.Lemmas.Timer2

namespace Paho
open TimerLemmas

/-- the keep-alive interval in model time units -/
def S.kms (s : S) : Nat := s.cfg.keepalive * 1000

def isPingreqQueued : Ev → Bool
  | .queued _ b => b == [0xC0, 0]
  | _ => false

def isKeepaliveDisc : Ev → Bool
  | .onDisconnect 16 _ => true
  | _ => false

theorem goodEv_eq (e : Ev) : goodEv e = (!isPingreqQueued e && !isKeepaliveDisc e) := by
  cases e with
  | queued c b => exact (Bool.and_true _).symm
  | onDisconnect n b =>
    by_cases h : n = 16
    · subst h; rfl
    · simp [goodEv, isPingreqQueued, isKeepaliveDisc, h]
  | _ => rfl

/-- K = 0: neither pings nor times out -/
theorem c08_k0 (cfg : Cfg) (proto : Nat) (ops : List Op) (h : cfg.keepalive = 0) :
    let s := runFrom cfg proto ops
    s.pingT = 0 ∧ s.log.all (fun e => !isPingreqQueued e && !isKeepaliveDisc e) = true := by
  intro s
  have hinit : K0Inv (S.init cfg proto t0) := ⟨h, rfl, fun _ he => (List.not_mem_nil he).elim⟩
  have hr : K0Inv s := S.run_ind K0Inv.step ops hinit
  refine ⟨hr.2.1, ?_⟩
  rw [List.all_eq_true]
  intro e he
  rw [← goodEv_eq]
  exact hr.2.2 e he

/-- clock sanity (all histories) -/
theorem c08_time_inv (cfg : Cfg) (proto : Nat) (ops : List Op) :
    let s := runFrom cfg proto ops
    s.lastOut ≤ s.now ∧ s.lastIn ≤ s.now ∧ s.pingT ≤ s.now ∧ (s.pingT > 0 → s.pingT ≤ s.lastOut ∧ s.pingT ≤ s.lastIn) := by
  intro s
  exact S.run_ind TInv.step ops ⟨Nat.le_refl _, Nat.le_refl _, Nat.zero_le _, nofun⟩

/-- a PINGREQ is outstanding only on a connection that was established (state CONNECTED or DISCONNECTING … at
the time it was sent) and the configuration never changes -/
theorem c08_cfg_const (cfg : Cfg) (proto : Nat) (ops : List Op) : (runFrom cfg proto ops).cfg = cfg :=
  S.run_ind (P := fun s => s.cfg = cfg) (fun s op h => (step_cfg s op).trans h) ops rfl

/-! ## one loop_misc() call -/

/-- idle for K or more with no PINGREQ outstanding on an established connection: loop_misc() queues a PINGREQ
(and, on the direct-write path with an accepting transport, it is written in the same call) -/
theorem c08_ping_due (s : S) (c : Nat) (hs : s.sock = some c) (hc : s.cstate = .connected) (hp : s.pingT = 0)
    (hk : s.cfg.keepalive > 0) (hidle : s.now - s.lastOut ≥ s.kms ∨ s.now - s.lastIn ≥ s.kms) :
    Ev.queued c [0xC0, 0] ∈ (s.loopMisc.1.log.drop s.log.length) ∧
    s.loopMisc.1.lastOut = s.now ∧ s.loopMisc.1.lastIn = s.now := by
  have hck : s.checkKeepalive = kaPing s :=
    (checkKeepalive_idle hk hs (idleB_true.mpr hidle)).trans (if_pos ⟨hc, hp⟩)
  rw [loopMisc_ping hs hk hp hck]
  obtain ⟨-, -, p3, p4, -, -, p7⟩ := kaPing_proj s
  obtain ⟨evs, hq⟩ := packetQueue_queued s (S.mkPkt 0xC0 0 0 (encSimple 0xC0)) hs
  refine ⟨?_, p3, p4⟩
  rw [p7, S.sendSimple, hq, List.drop_left]
  exact List.mem_cons_self

set_option linter.unusedVariables false in -- `hk` is not needed
/-- not idle: loop_misc() sends nothing and closes nothing -/
theorem c08_quiet (s : S) (hs : s.sock.isSome) (hk : s.cfg.keepalive > 0)
    (hfresh : s.now - s.lastOut < s.kms ∧ s.now - s.lastIn < s.kms)
    (hping : s.pingT = 0 ∨ s.now - s.pingT < s.kms) :
    s.loopMisc = (s, rcSuccess) := by
  unfold S.kms at *
  obtain ⟨c, hc⟩ := Option.isSome_iff_exists.mp hs
  rw [loopMisc_rest hc (.inr (idleB_false.mpr hfresh)), if_neg]
  rintro ⟨h1, h2⟩
  omega

set_option linter.unusedVariables false in -- `hinv` is not needed
/-- whenever loop_misc() returns with the socket still open, both activity timers are fresher than K -/
theorem c08_after_misc (s : S) (hk : s.cfg.keepalive > 0) (hinv : s.lastOut ≤ s.now ∧ s.lastIn ≤ s.now) :
    s.loopMisc.1.sock.isSome → s.loopMisc.1.now - s.loopMisc.1.lastOut < s.kms ∧ s.loopMisc.1.now - s.loopMisc.1.lastIn < s.kms := by
  intro h
  have := GInv.misc s hk h
  rw [Nat.add_zero] at this
  exact ⟨this.1, this.2.1⟩

/-- dead peer: a PINGREQ unanswered for K — the loop_misc() call closes the connection, reports the keep-alive
timeout through on_disconnect exactly once, returns a non-zero result and is_connected() turns false -/
theorem c08_timeout (s : S) (c : Nat) (hs : s.sock = some c) (hk : s.cfg.keepalive > 0) (hp : s.pingT > 0)
    (ht : s.now - s.pingT ≥ s.kms) (hst : s.cstate = .connected) (hext : s.cfg.ext = false) :
    let s' := s.loopMisc.1
    s'.sock = none ∧ s'.isConnected = false ∧ s.loopMisc.2 ≠ 0 ∧
    (s'.log.drop s.log.length) = [.sclose c false, .onDisconnect 16 false] := by
  unfold S.kms at ht
  have hnone := kaClose_sock s
  have key : s.loopMisc = (kaClose s, rcConnLost) := by
    cases hi : idleB s with
    | false => rw [loopMisc_rest hs (.inr hi), if_pos ⟨hp, ht⟩]
    | true =>
      refine loopMisc_closed hs ((checkKeepalive_idle hk hs hi).trans (if_neg ?_))
      omega
  obtain ⟨hl, hcs⟩ := kaClose_log s c hs hext hst
  rw [key]
  refine ⟨hnone, by simp [S.isConnected, hcs], by simp [rcConnLost], ?_⟩
  rw [hl, List.drop_left]

theorem not_keepaliveDisc {e : Ev} (h : SessAct.Disc.isD e = false) : (!isKeepaliveDisc e) = true := by
  cases e <;> first | rfl | cases h

set_option linter.unusedVariables false in -- `hext` is not needed
/-- live peer: while every outstanding PINGREQ is younger than K, loop_misc() never closes the connection -/
theorem c08_live (s : S) (hs : s.sock.isSome) (hk : s.cfg.keepalive > 0) (hst : s.cstate = .connected)
    (hinv : s.pingT > 0 → s.pingT ≤ s.lastOut ∧ s.pingT ≤ s.lastIn)
    (hping : s.pingT = 0 ∨ s.now - s.pingT < s.kms)
    (hsend : s.sendScript = []) (hq : s.outq = []) (hext : s.cfg.ext = false) :
    s.loopMisc.1.sock = s.sock ∧ (s.loopMisc.1.log.drop s.log.length).all (fun e => !isKeepaliveDisc e) = true := by
  unfold S.kms at hping
  obtain ⟨c, hc⟩ := Option.isSome_iff_exists.mp hs
  cases hi : idleB s with
  | false =>
    rw [loopMisc_rest hc (.inr hi), if_neg (by rintro ⟨h1, h2⟩; omega)]
    exact ⟨rfl, by simp⟩
  | true =>
    -- `hinv`: an outstanding PINGREQ is no older than the activity timers, and these are `K` old
    have hp : s.pingT = 0 := by
      have := idleB_true.mp hi
      omega
    rw [loopMisc_ping hc hk hp ((checkKeepalive_idle hk hc hi).trans (if_pos ⟨hst, hp⟩))]
    obtain ⟨-, -, -, -, -, p6, p7⟩ := kaPing_proj s
    obtain ⟨l1, evs, l2, l3⟩ := packetQueue_live s (S.mkPkt 0xC0 0 0 (encSimple 0xC0)) hc hsend hq (by decide)
    refine ⟨(p6.trans l1).trans hc.symm, ?_⟩
    rw [p7, S.sendSimple, l2, List.drop_left, List.all_eq_true]
    exact fun e he => not_keepaliveDisc (l3 e he).1

/-- PINGRESP clears the outstanding ping -/
theorem c08_pingresp (s : S) (ok : Bool) (hs : s.sock.isSome) :
    (s.step (.rx (.pkt .pingresp) ok)).pingT = 0 := by
  obtain ⟨c, hc⟩ := Option.isSome_iff_exists.mp hs
  simp only [S.step, S.loopRead, S.packetHandle, hc]
  simp only [show ¬ (rcSuccess > 0) by decide, show ¬ (rcSuccess = rcAgain) by decide, if_false]
  rfl

/-! ## serviced histories: the network loop runs loop_misc() at least every d milliseconds -/

/-- every stretch between two loop_misc() calls (and from the start) advances the clock by at most d -/
def gapOk (d : Nat) : (acc : Nat) → List Op → Bool
  | _, [] => true
  | acc, .tick ms :: rest => decide (acc + ms ≤ d) && gapOk d (acc + ms) rest
  | _, .loopMisc :: rest => gapOk d 0 rest
  | acc, _ :: rest => gapOk d acc rest

theorem gap_run (K d : Nat) (hK : K > 0) : ∀ (ops : List Op) (s : S) (acc : Nat), s.cfg.keepalive = K → acc ≤ d →
    GInv K acc s → gapOk d acc ops = true → GInv K d (s.run ops) := by
  intro ops
  induction ops with
  | nil => intro s acc _ hacc hinv _; exact hinv.mono hacc
  | cons op rest ih =>
    intro s acc hc hacc hinv hg
    rw [S.run_cons]
    have hc' : (s.step op).cfg.keepalive = K := by rw [step_cfg]; exact hc
    have other (h1 : op ≠ .loopMisc) (h2 : ∀ ms, op ≠ .tick ms) (hg' : gapOk d acc rest = true) :
        GInv K d ((s.step op).run rest) :=
      ih _ acc hc' hacc (hinv.fr hK (step_fr (g := false) s op h1 h2)) hg'
    cases op with
    | loopMisc =>
      subst hc
      rw [step_loopMisc] at hc' ⊢
      exact ih _ 0 hc' (Nat.zero_le _) (GInv.misc s hK) hg
    | tick ms =>
      simp only [gapOk, Bool.and_eq_true, decide_eq_true_eq] at hg
      exact ih _ (acc + ms) hc' hg.1 (hinv.tick ms) hg.2
    | _ => exact other nofun nofun hg

theorem gap_runFrom (cfg : Cfg) (proto : Nat) (ops : List Op) (d : Nat) (hk : cfg.keepalive > 0)
    (hg : gapOk d 0 ops = true) : GInv cfg.keepalive d (runFrom cfg proto ops) :=
  gap_run cfg.keepalive d hk ops (S.init cfg proto t0) 0 rfl (Nat.zero_le _)
    nofun hg

/-- with keepalive K > 0 and the loop serviced at least every d: at every moment at which the client holds a socket,
less than K + d has elapsed since the activity timers were refreshed (a refresh happens exactly when CONNECT or
PINGREQ is handed to the transport): the client never stays silent for K + d -/
theorem c08_gap_bound (cfg : Cfg) (proto : Nat) (ops : List Op) (d : Nat) (hk : cfg.keepalive > 0)
    (hg : gapOk d 0 ops = true) :
    let s := runFrom cfg proto ops
    s.sock.isSome → s.now - s.lastOut < cfg.keepalive * 1000 + d ∧ s.now - s.lastIn < cfg.keepalive * 1000 + d := by
  intro s hs
  have := gap_runFrom cfg proto ops d hk hg hs
  exact ⟨this.1, this.2.1⟩

/-- … and an unanswered PINGREQ is never older than K + d while the socket is still open: the timeout is
detected within K + d of sending it -/
theorem c08_timeout_bound (cfg : Cfg) (proto : Nat) (ops : List Op) (d : Nat) (hk : cfg.keepalive > 0)
    (hg : gapOk d 0 ops = true) :
    let s := runFrom cfg proto ops
    s.sock.isSome → s.pingT > 0 → s.now - s.pingT < cfg.keepalive * 1000 + d := by
  intro s hs hp
  exact (gap_runFrom cfg proto ops d hk hg hs).2.2 hp

/-! ## non-vacuity: K = 10 s; PINGREQ at +K, keep-alive timeout at +2K (kernel-evaluated) -/

/-- connect, CONNACK, then K = 10 s of silence -/
def histIdle : List Op := [.connect true, .rx (.pkt (.connack false 0)) true, .tick 10000]

/-- the hypotheses of `c08_ping_due` hold at +K -/
example :
    let s := runFrom { keepalive := 10 } 4 histIdle
    s.sock = some 1 ∧ s.cstate = .connected ∧ s.pingT = 0 ∧ s.cfg.keepalive > 0 ∧
      (s.now - s.lastOut ≥ s.kms ∨ s.now - s.lastIn ≥ s.kms) := by decide +kernel

/-- … and loop_misc() queues and writes the PINGREQ, keeping the socket -/
example :
    let s := runFrom { keepalive := 10 } 4 (histIdle ++ [.loopMisc])
    Ev.queued 1 [0xC0, 0] ∈ s.log ∧ Ev.tx 1 [0xC0, 0] ∈ s.log ∧ s.pingT = t0 + 10000 ∧ s.lastOut = t0 + 10000 ∧
      s.sock = some 1 := by decide +kernel

/-- the hypotheses of `c08_timeout` hold at +2K when no PINGRESP arrived -/
example :
    let s := runFrom { keepalive := 10 } 4 (histIdle ++ [.loopMisc, .tick 10000])
    s.sock = some 1 ∧ s.cfg.keepalive > 0 ∧ s.pingT > 0 ∧ s.now - s.pingT ≥ s.kms ∧ s.cstate = .connected ∧
      s.cfg.ext = false := by decide +kernel

/-- … and loop_misc() closes with the keep-alive error (16); the history is serviced every d = K -/
example :
    let s := runFrom { keepalive := 10 } 4 (histIdle ++ [.loopMisc, .tick 10000])
    let s' := runFrom { keepalive := 10 } 4 (histIdle ++ [.loopMisc, .tick 10000, .loopMisc])
    s'.sock = none ∧ s'.isConnected = false ∧
      s'.log.drop s.log.length = [.sclose 1 false, .onDisconnect 16 false, .ret 7 none] ∧
      gapOk 10000 0 (histIdle ++ [.loopMisc, .tick 10000, .loopMisc]) = true := by decide +kernel

/-- a PINGRESP in time keeps the connection: no timeout just before +2K -/
example :
    let s := runFrom { keepalive := 10 } 4
      (histIdle ++ [.loopMisc, .tick 5000, .rx (.pkt .pingresp) true, .tick 4999, .loopMisc])
    s.sock = some 1 ∧ s.pingT = 0 ∧ s.log.all (fun e => !isKeepaliveDisc e) = true := by decide +kernel

end Paho
