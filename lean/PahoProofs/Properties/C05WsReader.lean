/-
C05 (composition) — the MQTT packet reader on top of the WebSocket wrapper: `Client._packet_read` with
`self._sock` = `_WebsocketWrapper` (`packetReadWs` / `drainWs`, Paho/Model/ReaderWs.lean), for every list of well-formed
server frames (any opcodes, FIN/RSV bits, masked or not, any length form) and every chunking of their encoding into raw
`recv()` results (would-block anywhere, EOF / error or nothing at the end; no empty chunk): frame, packet and chunk
boundaries are unrelated. So control frames between or inside packets, several packets per frame, one packet over many
frames, a would-block at a frame boundary after the 100-read guard (`againBusy`) are all covered. The proof is the one
of C05 (`ReaderGen.drainOn_init`), with the transport specification `Ws.wsSpec` in place of `recvSpec`.
-/
import Paho.Model.ReaderWs
import PahoProofs.Properties.C05
import PahoProofs.Lemmas.WsReaderSpec
namespace Paho
open ReaderLemmas ReaderGen

/-- fresh wrapper over the raw queue `q` -/
def wsInit (q : List RecvItem) : WsT := { st := {}, q := q, sent := [] }

/-- enough `_packet_read()` calls for the raw queue `q` carrying `frames`: twice `Ws.mu frames {} q`, as
`ReaderGen.drainOn_init` asks, and one to spare -/
def drainWsFuel (frames : List Ws.Frame) (q : List RecvItem) : Nat :=
  2 * (q.length + (dataOf q).length + Ws.weight frames) + 2

/-- **C05 over WebSockets (reference semantics).** The packets `drainWs` hands over, and how it ends, are what the
byte-at-a-time reference automaton computes from `Ws.dataOf frames` (the concatenated payloads of the
BINARY/CONTINUATION frames) and the terminal event; unless it ends with a protocol error, the wrapper is back in its
initial state with every frame consumed and — given unmasked PING/CLOSE frames — exactly the owed PONG/CLOSE replies
written. -/
theorem c05ws_drain_feed (frames : List Ws.Frame) (hwf : ∀ f ∈ frames, f.wf) (q : List RecvItem)
    (hq : noEmptyChunks q = true) (hd : dataOf q = Ws.encs frames) :
    (drainWs (drainWsFuel frames q) {} (wsInit q) []).1 = (feed {} (Ws.dataOf frames) []).1 ∧
    (drainWs (drainWsFuel frames q) {} (wsInit q) []).2.2.2 =
      endOfP (terminalOf q) (feed {} (Ws.dataOf frames) []).2 ∧
    ((drainWs (drainWsFuel frames q) {} (wsInit q) []).2.2.2 ≠ .protocol →
      Ws.WsDone frames (drainWs (drainWsFuel frames q) {} (wsInit q) []).2.2.1) := by
  exact drainOn_init (Ws.wsSpec frames) _ (Ws.wsRel_init frames hwf q hq (by rw [Ws.flat_eq_dataOf, hd]))
    (by rw [drainWsFuel, Ws.mu, Ws.qMeasure, Ws.flat_eq_dataOf]; exact Nat.le_succ _)

/-- **C05 over WebSockets (fragmentation independence).** Two raw chunkings of the encoding of the same frames, with
the same terminal event: the same packets are handed to `_packet_handle`, the run ends the same way, and — unless it
ends with a protocol error — the wrapper has consumed every frame and (given unmasked PING/CLOSE) written the same
replies, namely the owed ones. -/
theorem c05ws_frag_independent (frames : List Ws.Frame) (hwf : ∀ f ∈ frames, f.wf) (q1 q2 : List RecvItem)
    (h1 : noEmptyChunks q1 = true) (h2 : noEmptyChunks q2 = true)
    (hd1 : dataOf q1 = Ws.encs frames) (hd2 : dataOf q2 = Ws.encs frames) (ht : terminalOf q1 = terminalOf q2) :
    (drainWs (drainWsFuel frames q1) {} (wsInit q1) []).1 = (drainWs (drainWsFuel frames q2) {} (wsInit q2) []).1 ∧
    (drainWs (drainWsFuel frames q1) {} (wsInit q1) []).2.2.2 = (drainWs (drainWsFuel frames q2) {} (wsInit q2) []).2.2.2 ∧
    ((∀ f ∈ frames, f.ctlUnmasked) → (drainWs (drainWsFuel frames q1) {} (wsInit q1) []).2.2.2 ≠ .protocol →
      (drainWs (drainWsFuel frames q1) {} (wsInit q1) []).2.2.1.sent = Ws.owedAll frames ∧
      (drainWs (drainWsFuel frames q2) {} (wsInit q2) []).2.2.1.sent = Ws.owedAll frames) := by
  have a := c05ws_drain_feed frames hwf q1 h1 hd1
  have b := c05ws_drain_feed frames hwf q2 h2 hd2
  exact ⟨by rw [a.1, b.1], by rw [a.2.1, b.2.1, ht], fun hctl hne =>
    ⟨(a.2.2 hne).2.2.2 hctl, (b.2.2 (by rw [b.2.1, ← ht, ← a.2.1]; exact hne)).2.2.2 hctl⟩⟩

/-- … and the packets are the reference split of the concatenated data-frame payloads (no packet starting with a zero
byte: there the reader stops with a protocol error, cf. `c05_zero_cmd_protocol`) -/
theorem c05ws_drain_spec (frames : List Ws.Frame) (hwf : ∀ f ∈ frames, f.wf) (q : List RecvItem)
    (hq : noEmptyChunks q = true) (hd : dataOf q = Ws.encs frames)
    (hz : cmdsNonzero ((Ws.dataOf frames).length + 1) (Ws.dataOf frames) = true) :
    (drainWs (drainWsFuel frames q) {} (wsInit q) []).1 =
      (splitStream ((Ws.dataOf frames).length + 1) (Ws.dataOf frames)).1 := by
  rw [(c05ws_drain_feed frames hwf q hq hd).1, feed_frames _ _ [] (Nat.lt_succ_self _) hz]
  rfl

/-- … and it is what the plain-socket reader hands over for ANY raw-socket queue `p` carrying the same MQTT bytes with
the same terminal event: the WebSocket layer is transparent for the packet reader -/
theorem c05ws_same_as_plain (frames : List Ws.Frame) (hwf : ∀ f ∈ frames, f.wf) (q p : List RecvItem)
    (hq : noEmptyChunks q = true) (hd : dataOf q = Ws.encs frames)
    (hp : noEmptyChunks p = true) (hpd : dataOf p = Ws.dataOf frames) (ht : terminalOf p = terminalOf q) :
    (drain (drainFuel p) {} p []).1 = (drainWs (drainWsFuel frames q) {} (wsInit q) []).1 ∧
    (drain (drainFuel p) {} p []).2.2 = toDrainEnd (drainWs (drainWsFuel frames q) {} (wsInit q) []).2.2.2 := by
  have a := c05ws_drain_feed frames hwf q hq hd
  have b := drain_feed p hp
  rw [a.1, a.2.1, b.1, b.2, hpd, ht]
  exact ⟨rfl, rfl⟩

/-! ## non-vacuity: one MQTT stream, frames cut across the packets, two raw chunkings -/

/-- MQTT bytes `D0 00 | 30 05 00 01 74 61 62 | 40 02 00 07` (PINGRESP, PUBLISH "t" "ab", PUBACK 7) carried by:
masked BINARY (FIN clear) `D0 00 30`, PING "hi", CONTINUATION in the 16-bit length form `05 00 01`, empty CLOSE,
CONTINUATION `74 61 62 40 02 00`, BINARY `07` -/
def exWsFrames : List Ws.Frame :=
  [⟨0x02, 0, some [1, 2, 3, 4], [0xD0, 0x00, 0x30]⟩, ⟨0x89, 0, none, [0x68, 0x69]⟩,
   ⟨0x00, 1, none, [0x05, 0x00, 0x01]⟩, ⟨0x88, 0, none, []⟩,
   ⟨0x80, 0, none, [0x74, 0x61, 0x62, 0x40, 0x02, 0x00]⟩, ⟨0x82, 0, none, [0x07]⟩]

theorem exWsFrames_wf : ∀ f ∈ exWsFrames, f.wf := by
  intro f hf
  simp only [exWsFrames, List.mem_cons, List.not_mem_nil, or_false] at hf
  rcases hf with rfl | rfl | rfl | rfl | rfl | rfl <;> exact ⟨fun k h => by cases h <;> rfl, by decide⟩

/-- everything in one raw chunk -/
def exRaw1 : List RecvItem := [.data (Ws.encs exWsFrames)]

/-- cut inside the first header, the mask key, a payload, the 16-bit length, between frames; would-block in between; EOF -/
def exRaw2 : List RecvItem :=
  [.data [2], .eagain, .data [131, 1, 2], .data [3, 4, 209], .eagain, .eagain, .data [2, 51, 137, 2, 104], .data [105, 0, 126, 0],
   .eagain, .data [3, 5, 0, 1, 136], .data [0, 128, 6, 116, 97, 98, 64], .eagain, .data [2, 0, 130, 1, 7], .eof]

example : dataOf exRaw1 = Ws.encs exWsFrames ∧ dataOf exRaw2 = Ws.encs exWsFrames ∧
    noEmptyChunks exRaw1 = true ∧ noEmptyChunks exRaw2 = true ∧ (∀ f ∈ exWsFrames, f.ctlUnmasked) ∧
    Ws.dataOf exWsFrames = [0xD0, 0, 0x30, 5, 0, 1, 0x74, 0x61, 0x62, 0x40, 2, 0, 7] := by
  decide +kernel

set_option maxRecDepth 100000 in
example :
    let d := drainWs (drainWsFuel exWsFrames exRaw1) {} (wsInit exRaw1) []
    d.1 = [(0xD0, []), (0x30, [0, 1, 0x74, 0x61, 0x62]), (0x40, [0, 7])] ∧ d.2.2.2 = .idle ∧
    d.2.2.1.sent = [[0x8a, 2, 0x68, 0x69], [0x88, 0]] ∧ d.2.2.1.st = {} := by
  decide +kernel

set_option maxRecDepth 100000 in
example :
    let d := drainWs (drainWsFuel exWsFrames exRaw2) {} (wsInit exRaw2) []
    d.1 = [(0xD0, []), (0x30, [0, 1, 0x74, 0x61, 0x62]), (0x40, [0, 7])] ∧ d.2.2.2 = .connLost ∧
    d.2.2.1.sent = [[0x8a, 2, 0x68, 0x69], [0x88, 0]] := by
  decide +kernel

/-- a body of 101 one-byte frames: the 100-read guard fires in the middle of the packet (`againBusy`), the next call
finishes it -/
def exBusyFrames : List Ws.Frame :=
  (([0x30, 101] ++ List.replicate 101 0x55 : Bytes).map fun b => (⟨0x82, 0, none, [b]⟩ : Ws.Frame))

set_option maxRecDepth 1000000 in
example :
    let q : List RecvItem := [.data (Ws.encs exBusyFrames)]
    (packetReadWs {} (wsInit q)).2.2 = .againBusy ∧
    (packetReadWs {} (wsInit q)).1.toProcess = 1 ∧
    (drainWs (drainWsFuel exBusyFrames q) {} (wsInit q) []).1 = [(0x30, List.replicate 101 0x55)] ∧
    (drainWs (drainWsFuel exBusyFrames q) {} (wsInit q) []).2.2.2 = .idle := by
  decide +kernel

end Paho
