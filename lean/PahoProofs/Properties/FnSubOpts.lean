/-
T1, translated: `SubscribeOptions.pack` and `SubscribeOptions.unpack`, translated from the AST of the current source by
py/py2lean.py (`Paho.Gen.FnSubOpts`, regenerated on every run), equal for all arguments the model's `SubOpts.pack` /
`SubOpts.unpack`, which the subscribe-options theorems of C17 are stated about.
-/
import Paho.Gen.FnSubOpts
import Paho.Model.Props
import PahoProofs.Lemmas.PyOps

namespace Paho.FnEq
open Paho Paho.Gen.Fn

/-- the translated test `x in (0, 1, 2)` on a non-negative integer -/
theorem in012 (k : Nat) : (((k : Int) == 0) || ((k : Int) == 1) || ((k : Int) == 2)) = decide (k ≤ 2) := by
  rw [Bool.eq_iff_iff]
  simp only [Bool.or_eq_true, beq_iff_eq, decide_eq_true_eq]
  omega

/-- **`SubscribeOptions.pack` as the source has it now = the model's `SubOpts.pack`** (one byte, or AssertionError),
for every options object with non-negative integer fields -/
theorem fn_subOptsPack (o : SubOpts) :
    subOptsPack (o.qos : Int) o.noLocal o.retainAsPublished (o.retainHandling : Int) = (o.pack).map (fun b => [b]) := by
  obtain ⟨q, nl, rap, rh⟩ := o
  have bit (b : Bool) : (if b = true then (1 : Int) else 0) = ((if b = true then 1 else 0 : Nat) : Int) := by
    cases b <;> rfl
  simp only [subOptsPack, SubOpts.pack, SubOpts.valid, in012, bit, shl_nat, bor_nat, bind, Except.bind]
  by_cases hrh : rh ≤ 2 <;> by_cases hq : q ≤ 2 <;>
    simp only [hrh, hq, decide_true, decide_false, Bool.not_true, Bool.not_false, Bool.false_eq_true, if_true,
      if_false, Bool.and_self, Bool.and_true, Bool.and_false]
  case pos =>
    -- both guards passed: the four fields fit one byte
    have hb : rh <<< 4 ||| (if rap = true then 1 else 0) <<< 3 ||| (if nl = true then 1 else 0) <<< 2 ||| q < 2 ^ 8 := by
      refine Nat.or_lt_two_pow (Nat.or_lt_two_pow (Nat.or_lt_two_pow ?_ ?_) ?_) (by omega)
      · rw [Nat.shiftLeft_eq]; omega
      · cases rap <;> decide
      · cases nl <;> decide
    simp only [List.mapM_cons, List.mapM_nil, byteOf_nat _ hb, bind, Except.bind, pure, Except.pure, Except.map]
  all_goals rfl

/-- the model's decoded options read as the attribute values the Python method leaves behind, with its return value 1 -/
def liftUnpack : Except Exc SubOpts → Except Exc (Int × Int × Bool × Bool × Int)
  | .ok o => .ok (1, (o.qos : Int), o.noLocal, o.retainAsPublished, (o.retainHandling : Int))
  | .error e => .error e

/-- **`SubscribeOptions.unpack` as the source has it now = the model's `SubOpts.unpack`**: the four attributes it sets
(whatever they were before), the return value 1, AssertionError for QoS 3 / retain handling 3, for every byte -/
theorem fn_subOptsUnpack (q0 : Int) (nl0 rap0 : Bool) (rh0 : Int) (b : UInt8) (rest : Bytes) :
    subOptsUnpack q0 nl0 rap0 rh0 (b :: rest) = liftUnpack (SubOpts.unpack b) := by
  have band3 (a : Nat) : Py.band (a : Int) 3 = .ok ((a &&& 3 : Nat) : Int) := band_nat a 3
  have band1 (a : Nat) : Py.band (a : Int) 1 = .ok ((a &&& 1 : Nat) : Int) := band_nat a 1
  have is1 (k : Nat) : ((k : Int) == 1) = decide (k = 1) := by
    rw [Bool.eq_iff_iff, beq_iff_eq, decide_eq_true_eq]; omega
  have tf (c : Bool) : (if c = true then true else false) = c := by cases c <;> rfl
  -- `in012` has to see the guards before `is1` rewrites the `== 1` inside them
  simp only [subOptsUnpack, SubOpts.unpack, SubOpts.valid, Py.first, bind, Except.bind, pure, Except.pure,
    shr_nat, band3, band1, ↓in012, is1, tf]
  by_cases hrh : b.toNat >>> 4 &&& 3 ≤ 2 <;> by_cases hq : b.toNat &&& 3 ≤ 2 <;>
    simp only [hrh, hq, decide_true, decide_false, Bool.not_true, Bool.not_false, Bool.false_eq_true, if_true,
      if_false, Bool.and_self, Bool.and_true, Bool.and_false] <;> rfl

theorem fn_subOptsUnpack_empty (q0 : Int) (nl0 rap0 : Bool) (rh0 : Int) :
    subOptsUnpack q0 nl0 rap0 rh0 [] = .error .indexError := rfl

end Paho.FnEq
