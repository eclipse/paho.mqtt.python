/-
T1, translated: `Client._loop_rc_handle` - where the client decides how a connection that ended with an error is reported
(C10: one on_disconnect per connection, client-generated result success iff disconnect() had been called, nothing for a
connection already closed and reported) - and `disconnect`, `is_connected`, `want_write`, `ack`. Translated from the AST of the
current source by py/py2lean.py (`Paho.Gen.FnLoopRc`, regenerated on every run) and proved equal to the session model's
functions of those names.
-/
import Paho.Gen.FnLoopRc
import PahoProofs.Properties.FnKeepalive

namespace Paho.FnEq
open Paho Paho.Py

/-- **`Client._loop_rc_handle` as the source has it now = the model's `loopRcHandle`** (result code and effect on the
client), for every state and every result code >= 0: nothing for rc = 0; nothing when the socket is already gone (closed and
reported while the packet was handled: F20); otherwise close, state DISCONNECTED with result success if disconnect() had been
called, else CONNECTION_LOST with the given result, and exactly one on_disconnect -/
theorem fn_loopRcHandle (s : S) (rc : Nat) :
    ∃ rc' effs, Gen.Fn.LoopRc.loopRcHandle (sockId s.sock) (csCode s.cstate) (s.now : Int) (rc : Int) = .ok (rc', effs) ∧
      (runEffs s effs, rc') = s.loopRcHandle (rc : Int) := by
  unfold Gen.Fn.LoopRc.loopRcHandle S.loopRcHandle
  simp only [pure, Except.pure, List.nil_append, List.cons_append, Bool.false_eq_true, if_false, bne_iff_ne, beq_iff_eq]
  by_cases h0 : (rc : Int) = 0
  · rw [if_neg (fun h => h h0), if_neg (fun h => h h0)]
    exact ⟨_, _, rfl, rfl⟩
  rw [if_pos h0, if_pos h0]
  cases hs : s.sock with
  | none => exact ⟨_, _, rfl, rfl⟩
  | some c =>
    rw [if_neg (sockId_ne c), if_neg (by nofun : ¬ (some c).isNone = true)]
    have hcode : (csCode s.cstate == Gen.Fn.LoopRc.c__ConnectionState_MQTT_CS_DISCONNECTING ||
        csCode s.cstate == Gen.Fn.LoopRc.c__ConnectionState_MQTT_CS_DISCONNECTED) = s.disconnectingOrDone := csCode_disc s
    have hrun := run_closeEffs s rc
    rw [disconnectingOrDone_sockClose] at hrun ⊢
    cases hd : s.disconnectingOrDone <;> rw [hd] at hcode hrun
    · exact ⟨rc, closeEffs false rc, by rw [if_neg (ne_true_of_eq_false hcode)]; rfl, by rw [hrun]; rfl⟩
    · exact ⟨0, closeEffs true rc, by rw [if_pos hcode]; rfl, by rw [hrun]; rfl⟩

/-- `_send_disconnect()` on the model: encode the DISCONNECT packet and queue it (result of the queueing) -/
def sendDisconnectM (s : S) : S × RC :=
  match encDisconnect s.proto none none with
  | .error _ => (s.emit (.exc "encode"), rcSuccess)
  | .ok bytes => s.packetQueue (S.mkPkt 0xE0 0 0 bytes)

/-- the steps of `disconnect()` executed on the model; the assignment of DISCONNECTING is where the model's ghost flag
"disconnect() was called on this connection" is set -/
def runDisc (s : S) : MEff → S
  | .setInt "_state" v =>
    if v = Gen.Fn.LoopRc.c__ConnectionState_MQTT_CS_DISCONNECTED then { s with cstate := .disconnected }
    else if v = Gen.Fn.LoopRc.c__ConnectionState_MQTT_CS_DISCONNECTING then { s with cstate := .disconnecting, discCalled := true }
    else s
  | .call "_send_disconnect" [] => (sendDisconnectM s).1
  | _ => s

/-- **`Client.disconnect` as the source has it now = the model's `disconnect`**, for every state in which the DISCONNECT packet
can be encoded: without a socket the state becomes DISCONNECTED and MQTT_ERR_NO_CONN is returned, nothing is queued; with a
socket the state becomes DISCONNECTING *before* DISCONNECT is handed to `_send_disconnect()`, whose result is returned -/
theorem fn_disconnect (s : S) (now : Int) (bytes : Bytes) (henc : encDisconnect s.proto none none = .ok bytes) :
    ∃ rc effs, Gen.Fn.LoopRc.disconnect (sockId s.sock) now (sendDisconnectM { s with cstate := .disconnecting, discCalled := true }).2
        = .ok (rc, effs) ∧
      (effs.foldl runDisc s).emit (.ret rc none) = s.disconnect := by
  unfold Gen.Fn.LoopRc.disconnect S.disconnect
  cases hs : s.sock with
  | none =>
    refine ⟨4, [.setInt "_state" Gen.Fn.LoopRc.c__ConnectionState_MQTT_CS_DISCONNECTED], ?_, ?_⟩
    · simp [sockId, pure, Except.pure, Gen.Fn.LoopRc.c_MQTT_ERR_NO_CONN]
    · simp [runDisc, rcNoConn, hs]
  | some c =>
    have e0 : ((c : Int) + 1 == 0) = false := by rw [beq_eq_false_iff_ne]; omega
    refine ⟨(sendDisconnectM { s with cstate := .disconnecting, discCalled := true }).2,
      [.setInt "_state" Gen.Fn.LoopRc.c__ConnectionState_MQTT_CS_DISCONNECTING, .call "_send_disconnect" []], ?_, ?_⟩
    · simp only [sockId, e0]
      simp [pure, Except.pure, hs]
    · simp [runDisc, sendDisconnectM, henc, hs, Gen.Fn.LoopRc.c__ConnectionState_MQTT_CS_DISCONNECTING,
        Gen.Fn.LoopRc.c__ConnectionState_MQTT_CS_DISCONNECTED]

/-- the DISCONNECT packet of a plain `disconnect()` can always be encoded -/
theorem encDisconnect_plain (proto : Nat) : ∃ bytes, encDisconnect proto none none = .ok bytes := by
  have h0 : remLenEncChecked 0 = .ok (remLenEnc 0) := by rfl
  unfold encDisconnect
  by_cases h : proto = 5 <;> simp [h, h0, pure, Except.pure, bind, Except.bind]

/-- **`Client.is_connected` as the source has it now = the model's `isConnected`** (C10: `c10_connected_sound` is about it) -/
theorem fn_isConnected (s : S) (now : Int) :
    Gen.Fn.LoopRc.isConnected (csCode s.cstate) now = .ok (s.isConnected, []) := by
  unfold Gen.Fn.LoopRc.isConnected S.isConnected
  cases hcs : s.cstate <;> simp [csCode, pure, Except.pure, Gen.Fn.LoopRc.c__ConnectionState_MQTT_CS_CONNECTED,
    Gen.Fn.c__ConnectionState_MQTT_CS_CONNECTED, Gen.Fn.c__ConnectionState_MQTT_CS_CONNECTION_LOST,
    Gen.Fn.c__ConnectionState_MQTT_CS_DISCONNECTING, Gen.Fn.c__ConnectionState_MQTT_CS_DISCONNECTED]

/-- **`Client.want_write` = the model's `wantWrite`**: true exactly while the outgoing packet queue is not empty (C06:
`c06_want_write`, C16: `c16_no_lost_wakeup` are about it) -/
theorem fn_wantWrite (s : S) (now : Int) :
    Gen.Fn.LoopRc.wantWrite (s.outq.length : Int) now = .ok (s.wantWrite, []) := by
  unfold Gen.Fn.LoopRc.wantWrite S.wantWrite
  cases h : s.outq with
  | nil => simp [pure, Except.pure]
  | cons p rest => simp [pure, Except.pure]

/-- the calls `ack()` makes, executed on the model -/
def runAck (s : S) : MEff → S
  | .call "_send_puback" [m] => (s.sendPuback m.toNat).1
  | .call "_send_pubcomp" [m] => (s.sendPubcomp m.toNat).1
  | _ => s

/-- **`Client.ack(mid, qos)` as the source has it now = the model's `ack`**: with manual acknowledgement on, QoS 1 sends PUBACK and
QoS 2 sends PUBCOMP for that id (the result of the send is returned); in every other case nothing is sent and the call
returns success (C03: `c03_manual` - no PUBACK / PUBCOMP is queued by anything but `ack()`) -/
theorem fn_ack (s : S) (mid qos : Nat) (now : Int) :
    ∃ rc effs, Gen.Fn.LoopRc.ack s.cfg.manualAck now (mid : Int) (qos : Int) (s.sendPuback mid).2 (s.sendPubcomp mid).2 = .ok (rc, effs) ∧
      (effs.foldl runAck s).emit (.ret rc none) = s.ack mid qos := by
  unfold Gen.Fn.LoopRc.ack S.ack
  by_cases hm : s.cfg.manualAck = true
  · by_cases h1 : qos = 1
    · subst h1
      exact ⟨(s.sendPuback mid).2, [.call "_send_puback" [(mid : Int)]], by simp [hm, pure, Except.pure], by simp [hm, runAck]⟩
    · by_cases h2 : qos = 2
      · subst h2
        exact ⟨(s.sendPubcomp mid).2, [.call "_send_pubcomp" [(mid : Int)]], by simp [hm, pure, Except.pure], by simp [hm, runAck]⟩
      · have e1 : ((qos : Int) == 1) = false := by rw [beq_eq_false_iff_ne]; omega
        have e2 : ((qos : Int) == 2) = false := by rw [beq_eq_false_iff_ne]; omega
        exact ⟨0, [], by simp [hm, e1, e2, pure, Except.pure], by simp [hm, h1, h2, rcSuccess]⟩
  · have hm' : s.cfg.manualAck = false := by simpa using hm
    exact ⟨0, [], by simp [hm', pure, Except.pure], by simp [hm', rcSuccess]⟩

end Paho.FnEq
