/-
T1: `Client._mid_generate` (the critical section of C07), translated statement by statement from the AST of the current
source by py/py2lean.py (`Paho.Gen.FnMid`, regenerated on every run), against the `midNext` that C14 is stated about.
-/
import Paho.Gen.FnMid
import PahoProofs.Properties.C14

namespace Paho.FnEq
open Paho Paho.Gen.Fn

/-- **`Client._mid_generate` as the source has it now = the model's `midNext`**: the value returned and the new
`_last_mid` -/
theorem fn_midGenerate (last : Nat) :
    midGenerate (last : Int) = .ok (((midNext last : Nat) : Int), ((midNext last : Nat) : Int)) := by
  rw [midNext_eq]
  unfold midGenerate
  by_cases h : last + 1 = 65536
  · cases Nat.succ.inj h; rfl
  · have h' : (((last : Int) + 1) == 65536) = false :=
      beq_eq_false_iff_ne.2 fun e => h (Int.ofNat_inj.1 e)
    rw [if_neg h]
    simp only [pure, Except.pure, h', Bool.false_eq_true, if_false]
    push_cast
    rfl

end Paho.FnEq
