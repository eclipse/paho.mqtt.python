/-
C14 — packet identifiers stay in 1..65535 and are never shared by live messages.

Statements are about `Paho.midNext` instantiated with the literals extracted from
`Client._mid_generate` (`Paho.Gen.midWrap` …): editing `65536`, `== `, `= 1` or
`+= 1` in the source regenerates different literals and these proofs stop checking.
-/
import Paho.Model.Mid

namespace Paho

theorem midNext_eq (last : Nat) : midNext last = if last + 1 = 65536 then 1 else last + 1 := by
  simp [midNext, Gen.midIncr, Gen.midWrapCmp, Gen.midWrap, Gen.midReset, Cmp.evalNat]

theorem midNext_mod (last : Nat) (h : last ≤ 65535) : midNext last = last % 65535 + 1 := by
  rcases Nat.lt_or_eq_of_le h with h | rfl
  · rw [midNext_eq, if_neg (Nat.ne_of_lt (Nat.succ_lt_succ h)), Nat.mod_eq_of_lt h]
  · rfl

/-- given the invariant `_last_mid ≤ 65535`, which holds initially (`c14_inv_init`) and is preserved (the second
conjunct) -/
theorem c14_range (last : Nat) (h : last ≤ 65535) : 1 ≤ midNext last ∧ midNext last ≤ 65535 := by
  rw [midNext_mod last h]
  exact ⟨Nat.le_add_left 1 _, Nat.mod_lt last (Nat.succ_pos _)⟩

theorem c14_inv_init : Gen.midInit ≤ 65535 := by decide

theorem c14_wrap : midNext 65535 = 1 := rfl

theorem c14_never_zero (last : Nat) : midNext last ≠ 0 := by
  rw [midNext_eq]
  split
  · exact Nat.one_ne_zero
  · exact Nat.succ_ne_zero last

theorem midSeq_length (n last : Nat) : (midSeq last n).length = n := by
  induction n generalizing last with
  | zero => rfl
  | succ n ih => simp [midSeq, ih]

/-- the ids cycle through 1..65535 and wrap from 65535 to 1 -/
theorem c14_cycle (n last k : Nat) (h : last ≤ 65535) (hk : k < n) :
    (midSeq last n)[k]? = some ((last + k) % 65535 + 1) := by
  induction n generalizing last k with
  | zero => exact absurd hk (Nat.not_lt_zero _)
  | succ n ih =>
    rw [midSeq]
    cases k with
    | zero => exact congrArg some (midNext_mod last h)
    | succ k =>
      rw [List.getElem?_cons_succ, ih (midNext last) k (c14_range last h).2 (Nat.lt_of_succ_lt_succ hk),
        midNext_mod last h, Nat.add_assoc, Nat.mod_add_mod, Nat.add_comm 1 k]

theorem c14_seq_range (n last : Nat) (h : last ≤ 65535) : ∀ m ∈ midSeq last n, 1 ≤ m ∧ m ≤ 65535 := by
  intro m hm
  obtain ⟨k, hk⟩ := List.getElem?_of_mem hm
  have hlt : k < n := midSeq_length n last ▸ (List.getElem?_eq_some_iff.mp hk).1
  cases (c14_cycle n last k h hlt).symm.trans hk
  exact ⟨Nat.le_add_left 1 _, Nat.mod_lt _ (Nat.succ_pos _)⟩

/-- two allocations fewer than 65535 apart never return the same id (sequentially; concurrently:
`c07_mids_distinct` in C07Mid.lean, over the interleaving model) -/
theorem c14_distinct_window (n last i j : Nat) (h : last ≤ 65535) (hij : i < j) (hj : j < n)
    (hw : j - i < 65535) : (midSeq last n)[i]? ≠ (midSeq last n)[j]? := by
  rw [c14_cycle n last i h (Nat.lt_trans hij hj), c14_cycle n last j h hj]
  intro heq
  -- equal residues: 65535 divides `j - i`, which lies strictly between 0 and 65535
  have h0 := Nat.sub_mod_eq_zero_of_mod_eq (Nat.succ.inj (Option.some.inj heq)).symm
  rw [Nat.add_sub_add_left, Nat.mod_eq_of_lt hw] at h0
  exact absurd h0 (Nat.sub_ne_zero_of_lt hij)

/-- non-vacuity: a concrete run across the wrap -/
example : midSeq 65533 4 = [65534, 65535, 1, 2] := by decide +kernel

end Paho
