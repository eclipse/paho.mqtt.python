/-
C06Ws: WebSocket framing, send side (`_WebsocketWrapper._create_frame` / `_send_impl`). Frames parse back under the
RFC 6455 rule (`ws_frame_roundtrip`); under the retry discipline of `_packet_write` the raw socket carries the frames of
the sends started, cut at the bytes accepted (`ws_send_stream`). At the end: the replies `_recv_impl` writes bypass
`_sendbuffer` and can land inside a partly sent frame.
-/
import PahoProofs.Lemmas.WsSend
namespace Paho.Ws
open Paho

/-- every frame `_create_frame` can build (any opcode, masked or not, up to 2^64 - 1 bytes) is read back by the
RFC 6455 parsing rule as one final frame with that opcode and payload, followed by exactly what followed it -/
theorem createFrame_roundtrip (op : Nat) (hop : op < 16) (data key tail : Bytes) (m : Nat) (hm : m = 0 ∨ m = 1)
    (hk : m = 1 → key.length = 4) (hn : data.length < 2 ^ 64) :
    parseFrame (createFrame op data key m ++ tail) =
      some ({ fin := true, rsv := 0, opcode := op, masked := decide (m = 1), key := if m = 1 then key else [],
              payload := data }, tail) := by
  -- the first byte is 128 + op: FIN, no RSV bit, the opcode in the low nibble
  have hb0 : (b8 (128 ||| op)).toNat = 16 * 8 + op := by rw [or128_eq (by omega), b8_toNat (by omega)]
  have e2 : (16 * 8 + op) / 16 % 8 = 0 := by rw [Nat.mul_add_div (by decide), Nat.div_eq_of_lt hop]
  have e3 : (16 * 8 + op) % 16 = op := by rw [Nat.mul_add_mod, Nat.mod_eq_of_lt hop]
  have hwf : Frame.wf ⟨b8 (128 ||| op), lenFormOf data.length, if m = 1 then some key else none, data⟩ := by
    refine ⟨fun k h => ?_, lenFormOf_fits hn⟩
    rcases hm with rfl | rfl
    · cases h
    · cases h; exact hk rfl
  rw [createFrame_eq_enc op data key m hm, parseFrame_enc hwf]
  simp only [Frame.opcode, hb0, e2, e3, decide_eq_true (Nat.le_add_right (16 * 8) op)]
  rcases hm with rfl | rfl <;> rfl

/-- **C06Ws (frame).** What `_create_frame(OPCODE_BINARY, data)` builds is, by the RFC 6455 parsing rule, one complete
final masked binary frame carrying `data`, whatever the data (up to 2^64 - 1 bytes) and the mask key. -/
theorem ws_frame_roundtrip (data key tail : Bytes) (hk : key.length = 4) (hn : data.length < 2 ^ 64) :
    parseFrame (createFrame 2 data key 1 ++ tail) =
      some ({ fin := true, rsv := 0, opcode := 2, masked := true, key := key, payload := data }, tail) :=
  createFrame_roundtrip 2 (by decide) data key tail 1 (Or.inr rfl) (fun _ => hk) hn

/-- non-vacuity: the three length forms, checked by evaluation (lengths 3, 126 and 65536) -/
example : parseFrame (createFrame 2 [1, 2, 3] [0x11, 0x22, 0x33, 0x44] 1 ++ [9]) =
    some ({ fin := true, rsv := 0, opcode := 2, masked := true, key := [0x11, 0x22, 0x33, 0x44], payload := [1, 2, 3] }, [9]) := by
  decide +kernel
example : (createFrame 2 [1, 2, 3] [0x11, 0x22, 0x33, 0x44] 1) = [0x82, 0x83, 0x11, 0x22, 0x33, 0x44, 0x10, 0x20, 0x30] := by
  decide +kernel
set_option maxRecDepth 100000 in
example : (createFrame 2 (List.replicate 126 7) [1, 2, 3, 4] 1).take 8 = [0x82, 0xFE, 0, 126, 1, 2, 3, 4] := by decide +kernel
example : (createFrame 2 (List.replicate 126 7) [1, 2, 3, 4] 1).length = 134 := by
  rw [createFrame_masked_length _ _ _ rfl, List.length_replicate]; rfl

/-- **C06Ws (stream).** `cs` is any sequence of `_send_impl` calls on a fresh wrapper (data, the 4 bytes `os.urandom`
returned, what the raw `socket.send` did: `accept k` / `wouldBlock` / `error`) in which a call that returned 0 or raised
is followed by a call with the same data. With `s := refRun 0 cs` (the byte-counting reference: a call starts the frame
`createFrame 2 data key 1` iff the previous frame is completely accepted — also when its raw send then raises; the
socket takes `min k remaining`, nothing when it raises):
* the bytes on the raw socket are the concatenation of the frames of the sends started, cut after the accepted bytes;
* what is left of it is exactly `_sendbuffer`;
* the socket never took more than was framed, and the unsent part fits in the last frame (every earlier frame is complete);
* the outcomes are those of the reference: `len(data)` when the call's frame is now completely accepted, 0 when the
  socket took some bytes but not the rest, the socket's exception when it raised. -/
theorem ws_send_stream (cs : List Call) (hd : Disciplined {} cs) :
    let r := runSend {} cs
    let s := refRun 0 cs
    r.wire = s.frames.flatten.take s.total ∧
    r.st.sendbuffer = s.frames.flatten.drop s.total ∧
    r.rets = s.rets ∧
    s.total + r.st.sendbuffer.length = s.frames.flatten.length ∧
    r.st.sendbuffer.length ≤ (match s.frames.getLast? with | some f => f.length | none => 0) := by
  obtain ⟨h1, h2, h3⟩ := runSend_ref cs {} (fun h => absurd rfl h) hd
  have h2 : (runSend {} cs).st.sendbuffer = (refRun 0 cs).frames.flatten.drop (refRun 0 cs).total := h2
  have ht := refRun_total cs 0
  rw [Nat.zero_add] at ht
  -- what is left in `_sendbuffer` is what the reference still has to send
  have h4 : (runSend {} cs).st.sendbuffer.length = (refRun 0 cs).rem := by
    rw [h2, List.length_drop, ← ht, Nat.add_sub_cancel_left]
  exact ⟨h1, h2, h3, by rw [h4, ht], h4 ▸ refRun_rem_le cs 0⟩

/-- the outcome of each call, spelled out (first step of `refRun`): with the discipline it is `len(data)` of THIS call
iff the socket takes all that is left of the frame in flight, 0 if it takes less, and the socket's exception if it raises -/
theorem refRun_ret_head (rem : Nat) (c : Call) (cs : List Call) :
    (refRun rem (c :: cs)).rets.head? =
      some (match c.out with
        | .accept a =>
          .ret (if (if rem = 0 then (createFrame 2 c.data c.key 1).length else rem) ≤ a then c.data.length else 0)
        | .wouldBlock => .raised true
        | .error => .raised false) := by
  simp only [refRun, List.head?_cons]
  congr 1
  generalize (if rem = 0 then (createFrame 2 c.data c.key 1).length else rem) = L
  cases c.out with
  | wouldBlock => rfl
  | error => rfl
  | accept a =>
    -- nothing of the frame is left iff the socket takes at least all of it
    have h : L - min a L = 0 ↔ L ≤ a := by
      rw [Nat.sub_eq_zero_iff_le, Nat.le_min]
      exact ⟨fun h => h.1, fun h => ⟨h, Nat.le_refl _⟩⟩
    simp only [outcome, taken, h]

/-- when the raw send raises, `_send_impl` writes nothing, raises, and keeps in `_sendbuffer` the frame in flight —
the one this very call created if none was pending (that frame, with this call's mask key, is what the retry sends) -/
theorem ws_send_raise_keeps_frame (st : SendSt) (data key : Bytes) (out : SockSend) (h : out = .wouldBlock ∨ out = .error) :
    (sendImpl st data key out).1.sendbuffer =
      (if st.sendbuffer.length = 0 then createFrame 2 data key 1 else st.sendbuffer) ∧
    (sendImpl st data key out).1.requestedSize = (if st.sendbuffer.length = 0 then data.length else st.requestedSize) ∧
    (sendImpl st data key out).2.1 = [] ∧
    (sendImpl st data key out).2.2 = .raised (decide (out = .wouldBlock)) := by
  rw [sendImpl_eq]
  rcases h with rfl | rfl <;> exact ⟨rfl, rfl, rfl, rfl⟩

/-- without the discipline the claim about return values is false: the size returned is the one remembered from the
call that created the frame -/
theorem ws_send_undisciplined_ret :
    (runSend {} [⟨[1, 2, 3], [0, 0, 0, 0], .accept 2⟩, ⟨[9], [0, 0, 0, 0], .accept 100⟩]).rets = [.ret 0, .ret 3] := by
  decide +kernel

/-- non-vacuity: two messages; the first needs three calls (0 bytes, 4 bytes, the rest), the second goes out at once -/
example :
    let cs : List Call := [⟨[1, 2], [0xA, 0xB, 0xC, 0xD], .accept 0⟩, ⟨[1, 2], [5, 5, 5, 5], .accept 4⟩,
                           ⟨[1, 2], [6, 6, 6, 6], .accept 100⟩, ⟨[7], [1, 1, 1, 1], .accept 100⟩]
    Disciplined {} cs ∧ (runSend {} cs).rets = [.ret 0, .ret 0, .ret 2, .ret 1] ∧
    (runSend {} cs).wire = [0x82, 0x82, 0xA, 0xB, 0xC, 0xD, 0xB, 0x9] ++ [0x82, 0x81, 1, 1, 1, 1, 6] ∧
    (refRun 0 cs).frames.length = 2 := by
  decide +kernel

/-- non-vacuity with a raising socket: an 8-byte message (frame of 14 bytes); the socket takes 10 bytes, then is full
(BlockingIOError), then takes the rest. One frame on the wire, in one piece, with the FIRST call's key; the calls end
0 / BlockingIOError / 8. Then a message whose first raw send fails with EPIPE, then would-block, then goes out: its
frame carries the key of the call that raised first. -/
example :
    let d : Bytes := [1, 2, 3, 4, 5, 6, 7, 8]
    let cs : List Call := [⟨d, [0x10, 0x20, 0x30, 0x40], .accept 10⟩, ⟨d, [9, 9, 9, 9], .wouldBlock⟩,
                           ⟨d, [8, 8, 8, 8], .accept 100000⟩,
                           ⟨[0xff], [1, 1, 1, 1], .error⟩, ⟨[0xff], [2, 2, 2, 2], .wouldBlock⟩, ⟨[0xff], [3, 3, 3, 3], .accept 7⟩]
    Disciplined {} cs ∧
    (runSend {} cs).rets = [.ret 0, .raised true, .ret 8, .raised false, .raised true, .ret 1] ∧
    (runSend {} cs).wire = createFrame 2 d [0x10, 0x20, 0x30, 0x40] 1 ++ createFrame 2 [0xff] [1, 1, 1, 1] 1 ∧
    (runSend {} cs).wire = [0x82, 0x88, 0x10, 0x20, 0x30, 0x40, 0x11, 0x22, 0x33, 0x44, 0x15, 0x26, 0x37, 0x48] ++
                           [0x82, 0x81, 1, 1, 1, 1, 0xfe] ∧
    (refRun 0 cs).frames.length = 2 ∧ (runSend {} cs).st.sendbuffer = [] := by
  decide +kernel

/-- unmasked reply frames (`createFrame op data · 0`, op < 16) also parse back: FIN, opcode `op`, not masked -/
theorem ws_reply_roundtrip (op : Nat) (hop : op < 16) (data key tail : Bytes) (hn : data.length < 126) :
    parseFrame (createFrame op data key 0 ++ tail) =
      some ({ fin := true, rsv := 0, opcode := op, masked := false, key := [], payload := data }, tail) :=
  createFrame_roundtrip op hop data key tail 0 (Or.inl rfl) nofun (Nat.lt_trans hn (by decide))

/-- **Witness (defect in the code as it is).** `ws_send_stream` is about the bytes `_send_impl` writes. `_recv_impl`
writes its PONG / CLOSE replies straight to the raw socket, also while `_sendbuffer` still holds the rest of a partly
sent frame. Here: a 5-byte message of which the socket takes 3 bytes (return 0), then an empty PING is read, then the
retry completes the message (return 5). On the wire the PONG `8a 00` sits inside the binary frame: the peer parses a
frame whose payload is not `01 02 03 04 05`. -/
theorem ws_reply_interleaves_partial_send :
    let s1 := sendImpl {} [1, 2, 3, 4, 5] [0xa1, 0xa2, 0xa3, 0xa4] (.accept 3)
    let r := recvImpl {} [.data [0x89, 0x00]] 1
    let s2 := sendImpl s1.1 [1, 2, 3, 4, 5] [0xa1, 0xa2, 0xa3, 0xa4] (.accept 100)
    let wire := s1.2.1 ++ r.2.2.2.flatten ++ s2.2.1
    s1.2.2 = .ret 0 ∧ r.2.2.2 = [[0x8a, 0x00]] ∧ s2.2.2 = .ret 5 ∧
    wire = [0x82, 0x85, 0xa1, 0x8a, 0x00, 0xa2, 0xa3, 0xa4, 0xa0, 0xa0, 0xa0, 0xa0, 0xa4] ∧
    (parseFrame wire).map (fun x => x.1.payload) = some [0x02, 0x2e, 0xa0, 0x02, 0x01] := by
  decide +kernel

end Paho.Ws
