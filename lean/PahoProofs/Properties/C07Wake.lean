/-
C07, section B — queue, wake-up pipe, writer (`WakeSys` of Paho/Model/Threads.lean), over all schedules.
-/
import Paho.Model.Threads
import PahoProofs.Lemmas.ThrWake
import PahoProofs.Lemmas.ThrWakeDrain
namespace Paho.Thr
open Paho

/-- FIFO hand-off: the wire, then what the writer has in hand, then the queue, is exactly what was appended, byte for
byte, in append order -/
theorem c07_fifo (w : Tid) (sched : List (Tid × WAct)) :
    let s := (WakeSys.init w).run sched
    s.wire ++ s.handBytes ++ s.queueBytes = s.allBytes := ((WInv.init w).run sched).fifo

/-- every packet reaches the wire intact, in order, at most once ... -/
theorem c07_wire_prefix (w : Tid) (sched : List (Tid × WAct)) :
    let s := (WakeSys.init w).run sched
    s.wire <+: s.allBytes := by
  intro s
  have h : Fifo s := ((WInv.init w).run sched).fifo
  exact ⟨s.handBytes ++ s.queueBytes, by rw [← h, List.append_assoc]⟩

theorem c07_wire_nodup (w : Tid) (sched : List (Tid × WAct)) :
    let s := (WakeSys.init w).run sched
    (s.all.map (·.id)).Nodup → s.wire.Nodup := by
  intro s hnd
  exact (c07_wire_prefix w sched).sublist.nodup (bytes_nodup s.all hnd)

/-- ... and exactly once when the queue has been drained -/
theorem c07_exactly_once (w : Tid) (sched : List (Tid × WAct)) :
    let s := (WakeSys.init w).run sched
    s.queue = [] → s.handBytes = [] → s.wire = s.allBytes :=
  ((WInv.init w).run sched).fifo.drained

/-- no lost wake-up: the network thread never enters select() without the socket in its write set while a packet is
queued, unless the wake-up byte is in the pipe or the queuing thread is about to send it -/
theorem c07_no_lost_wakeup (w : Tid) (sched : List (Tid × WAct)) :
    let s := (WakeSys.init w).run sched
    s.queue ≠ [] → s.lpc = .armed false → s.pipe > 0 ∨ ∃ t, s.ppc t = .half := by
  intro s hq hl
  rcases ((WInv.init w).run sched).nolost hq hl with h | h
  · exact .inl h
  · exact .inr (((WInv.init w).run sched).cnt.pos h)

/-- the ghost counter of half-way threads is exact enough: zero only if no thread is half-way -/
theorem c07_nhalf_sound (w : Tid) (sched : List (Tid × WAct)) :
    let s := (WakeSys.init w).run sched
    s.nhalf = 0 → ∀ t, s.ppc t = .idle := ((WInv.init w).run sched).cnt.zero

/-- no stall: select() never times out (with the socket writable) with a packet queued and nobody about to send the
wake-up byte -/
theorem c07_no_stall (w : Tid) (sched : List (Tid × WAct)) :
    ((WakeSys.init w).run sched).stalls = 0 := ((WInv.init w).run sched).nostall

/-- progress: with the publishers quiet and the socket writable, the network thread alone (its own actions, no
timeout) gets every queued byte onto the wire -/
theorem c07_drains (w : Tid) (sched : List (Tid × WAct)) (hlen : ∀ x ∈ sched, ∀ id, x.2 ≠ .append id 0) :
    let s := (WakeSys.init w).run sched
    s.lpc ≠ .dead → s.nhalf = 0 →
    ∃ acts : List WAct, let s' := s.run (acts.map fun a => (s.loopTid, a))
      s'.queue = [] ∧ s'.handBytes = [] ∧ s'.stalls = 0 ∧ s'.all = s.all ∧ s'.wire = s'.allBytes := by
  intro s hlive _
  have hpos : PosLt s := run_inv (fun _ => rfl) (fun _ _ _ _ => rfl) sched
    (fun _ _ _ _ hm h hs => poslt_step (hlen _ hm) h (WakeSys.step_moves hs)) _ ⟨nofun, nofun⟩
  obtain ⟨acts, hq, hh, hall⟩ := drained_live s hlive hpos
  have hs : WInv s := (WInv.init w).run sched
  have hinv := hs.run (acts.map fun a => (s.loopTid, a))
  exact ⟨acts, hq, hh, hinv.nostall, hall, hinv.fifo.drained hq hh⟩

/-- CONNECT (packet id 0) is the first packet of the connection unless another thread queued a packet between
reconnect()'s `_out_packet.clear()` and its `_send_connect()` (ghost counter `raced`) -/
theorem c07_connect_first_partial (w : Tid) (sched : List (Tid × WAct)) :
    let s := (WakeSys.init w).run sched
    s.raced = 0 → s.all = [] ∨ (s.all.head?.map (·.id)) = some 0 := by
  intro s h0
  have := ((WInv.init w).run sched).connFirst h0
  split at this
  · exact .inl this
  · exact .inr this

/-- the FULL statement ("the first packet on every connection is CONNECT even if other threads publish while the
connection is being made") is FALSE of the model, as of the code (known finding F13): thread 1 reconnects, thread 2
publishes in between -/
theorem c07_connect_first_false :
    let s := (WakeSys.init 0).run [(1, .clear), (2, .append 7 10), (2, .wake), (1, .append 0 14), (1, .wake)]
    s.all.head?.map (·.id) = some 7 ∧ s.raced = 1 := by decide

-- non-vacuity: one publisher, one network thread, a partial write in between. The leading `handover` (loop_start())
-- creates the wake-up pipe, which `.wantw` requires (`hasPipe`): without that guard c07_no_lost_wakeup and c07_no_stall
-- are false, since [(0, wantw), (1, append 5 2), (0, select false true)] from `init 0` stalls.
example :
    let s := (WakeSys.init 0).run [(0, .handover), (0, .append 0 3), (0, .wake), (0, .wantw), (0, .select false true), (0, .drain), (0, .startw),
      (0, .pop), (1, .append 5 2), (0, .send 2), (0, .pushback), (1, .wake), (0, .pop), (0, .send 1), (0, .pop), (0, .send 2), (0, .pop)]
    s.wire = [(0, 0), (0, 1), (0, 2), (5, 0), (5, 1)] ∧ s.queue = [] ∧ s.stalls = 0 ∧ s.lpc = .misc := by decide
-- the same without `handover` (no loop_start(): no pipe, `wake`/`wantw`/`select`/`drain`/`startw` are not enabled
-- and skipped; the publisher's own direct loop_write() does the writing, the writer stays at `top`)
example :
    let s := (WakeSys.init 0).run [(0, .append 0 3), (0, .wake), (0, .wantw), (0, .select false true), (0, .drain), (0, .startw),
      (0, .pop), (1, .append 5 2), (0, .send 2), (0, .pushback), (1, .wake), (0, .pop), (0, .send 1), (0, .pop), (0, .send 2), (0, .pop)]
    s.wire = [(0, 0), (0, 1), (0, 2), (5, 0), (5, 1)] ∧ s.queue = [] ∧ s.stalls = 0 ∧ s.lpc = .top := by decide

end Paho.Thr
