/-
C04 — every emitted packet is well-formed and carries exactly the values supplied.
STATEMENTS TO PROVE. Encoders: Paho/Model/Codec.lean (model of the Python `_send_*` functions);
independent strict decoder: Paho/Spec/Wire.lean (`Spec.Wire.decode`), spec VBI: `Spec.vbi` (Paho/Spec/Props.lean).
-/
import Paho.Model.Codec
import Paho.Model.Session
import Paho.Spec.Props
import Paho.Spec.Wire
import PahoProofs.Lemmas.SessionDefs
import PahoProofs.Lemmas.Wire
import PahoProofs.Lemmas.CleanFlag

namespace Paho
open Spec.Wire (Packet WillS decode)
open WireLemmas PropsLemmas CleanFlag

/-- a packed property block: VBI length prefix + body (established for `Props.pack` by C17;
for `props = none` on MQTT 5 the block is `[0]`, i.e. body = []) -/
def IsBlock (pp body : Bytes) : Prop := pp = Spec.vbi body.length ++ body ∧ body.length ≤ 268435455

/-- property block (or its absence below MQTT 5) followed by the rest of the packet -/
theorem optProps_pp {proto : Nat} {props : Option Props} {pp body : Bytes}
    (hp : packProps proto props = .ok pp) (hb : proto = 5 → IsBlock pp body) (rest : Bytes) :
    Spec.Wire.optProps proto (pp ++ rest) = some (if proto = 5 then some body else none, rest) := by
  by_cases h5 : proto = 5
  · obtain ⟨rfl, hbl⟩ := hb h5
    rw [h5, List.append_assoc, optProps_five body rest hbl, if_pos rfl]
  · rw [packProps_not_five hp h5, optProps_not_five _ h5, if_neg h5]
    rfl

/-- the remaining-length encoder produces the specification's minimal VBI for every length MQTT can express … -/
theorem c04_remlen_spec (n : Nat) (h : n ≤ 268435455) : remLenEncChecked n = .ok (Spec.vbi n) :=
  (remLenEncChecked_eq n).trans (if_pos h)

/-- … and raises for every other length: a five-byte remaining length is never emitted -/
theorem c04_remlen_reject (n : Nat) (h : n > 268435455) : remLenEncChecked n = .error .valueError :=
  (remLenEncChecked_eq n).trans (if_neg (Nat.not_le.mpr h))

/-- the strict decoder inverts it -/
theorem c04_vbi_decode (n : Nat) (h : n ≤ 268435455) (tl : Bytes) :
    Spec.Wire.vbiDecode (Spec.vbi n ++ tl) = some (n, tl) :=
  vbiDecode_vbi n h tl

/-! ## framing: the announced remaining length is the real one -/

theorem c04_frame_publish (proto mid : Nat) (topic payload : Bytes) (qos : Nat) (retain dup : Bool)
    (props : Option Props) (bs : Bytes)
    (h : encPublish proto mid topic payload qos retain dup props = .ok bs) :
    ∃ hdr body, bs = hdr :: (Spec.vbi body.length ++ body) ∧ body.length ≤ 268435455 := by
  obtain ⟨pp, _, _, _, hlen, rfl⟩ := encPublish_inv h
  exact ⟨_, _, rfl, hlen⟩

theorem c04_frame_connect (a : ConnectArgs) (bs : Bytes) (h : encConnect a = .ok bs) :
    ∃ body, bs = 0x10 :: (Spec.vbi body.length ++ body) ∧ body.length ≤ 268435455 := by
  obtain ⟨cprops, wprops, _, _, _, _, _, _, _, hlen, rfl⟩ := encConnect_inv h
  exact ⟨_, rfl, hlen⟩

theorem c04_frame_subscribe (proto mid : Nat) (topics : List (Bytes × Nat)) (props : Option Props) (bs : Bytes)
    (h : encSubscribe proto mid topics props = .ok bs) :
    ∃ body, bs = 0x82 :: (Spec.vbi body.length ++ body) ∧ body.length ≤ 268435455 := by
  obtain ⟨pp, _, _, _, hlen, rfl⟩ := encSubscribe_inv h
  exact ⟨_, rfl, hlen⟩

theorem c04_frame_unsubscribe (proto mid : Nat) (topics : List Bytes) (props : Option Props) (bs : Bytes)
    (h : encUnsubscribe proto mid topics props = .ok bs) :
    ∃ body, bs = 0xA2 :: (Spec.vbi body.length ++ body) ∧ body.length ≤ 268435455 := by
  obtain ⟨pp, _, _, _, hlen, rfl⟩ := encUnsubscribe_inv h
  exact ⟨_, rfl, hlen⟩

/-! ## round trips through the independent decoder

Each proof: `enc…_inv` takes the result apart, `decode_frame` strips header byte and remaining length, `decodeBody` is
followed field by field. -/

-- linter off, here and below, where a statement carries a hypothesis (protocol range, …) its proof does not need
set_option linter.unusedVariables false in
/-- PUBLISH: the strict decoder recovers exactly dup, qos, retain, topic, packet id, property block and payload -/
theorem c04_roundtrip_publish (proto mid : Nat) (topic payload : Bytes) (qos : Nat) (retain dup : Bool)
    (props : Option Props) (pp body bs tl : Bytes)
    (hproto : proto = 3 ∨ proto = 4 ∨ proto = 5) (hq : qos ≤ 2) (hmid : qos > 0 → 1 ≤ mid) (hdup : qos = 0 → dup = false)
    (hp : packProps proto props = .ok pp) (hb : proto = 5 → IsBlock pp body)
    (h : encPublish proto mid topic payload qos retain dup props = .ok bs) :
    decode proto (bs ++ tl) =
      some (.publish dup qos retain topic (if qos > 0 then some mid else none) (if proto = 5 then some body else none) payload, tl) := by
  obtain ⟨pp', hpp', ht, hm, hfr⟩ := encPublish_inv h
  cases hp.symm.trans hpp'
  obtain ⟨e1, e2, e3, e4⟩ := pubHdr_bits dup qos retain hq
  rw [decode_frame hfr, e1]
  unfold Spec.Wire.decodeBody
  simp only [↓reduceIte, Nat.reduceEqDiff, e2, e3, e4, boolBit_eq_one, Bool.decide_eq_true, pubBody,
    lp_field topic _ ht, if_neg (Nat.ne_of_lt (Nat.lt_succ_of_le hq))]
  by_cases hq0 : qos > 0
  · simp only [hq0, if_true, u16_u16b mid (hm hq0), Option.map, optProps_pp hp hb, Nat.ne_of_gt hq0, false_and,
      if_false, Option.some.injEq, Nat.ne_of_gt (hmid hq0)]
  · cases Nat.eq_zero_of_not_pos hq0
    simp only [hdup rfl, Nat.lt_irrefl, if_false, List.nil_append, optProps_pp hp hb, Bool.false_eq_true, and_false,
      reduceCtorEq, Option.map]

/-- PUBACK / PUBREC / PUBREL / PUBCOMP -/
theorem c04_roundtrip_ack (proto mid : Nat) (bs tl : Bytes) (k : Nat) (hk : k = 4 ∨ k = 5 ∨ k = 6 ∨ k = 7)
    (hmid : 1 ≤ mid ∧ mid ≤ 65535)
    (h : encCmdMid (if k = 6 then 0x62 else k * 16) mid false = .ok bs) :
    decode proto (bs ++ tl) = some (.ack k mid, tl) := by
  simp only [encCmdMid, Bool.false_eq_true, if_false, bind_ok, pure_ok] at h
  obtain ⟨m, hm, rfl⟩ := h
  obtain ⟨_, rfl⟩ := packU16_nat_inv hm
  have hu : Spec.Wire.u16 (u16b mid) = some (mid, []) := u16_u16b mid hmid.2 []
  -- the literal second byte `2` is the remaining length of the two-byte body
  refine (decode_frame (body := u16b mid) ⟨Nat.le_of_ble_eq_true rfl, rfl⟩ proto tl).trans ?_
  unfold Spec.Wire.decodeBody
  rcases hk with rfl | rfl | rfl | rfl <;>
    simp only [↓reduceIte, Nat.reduceEqDiff, Nat.reduceMul, b8_toNat, Nat.reduceLT, Nat.reduceDiv, Nat.reduceMod,
      hu, Nat.ne_of_gt hmid.1, or_true, true_or, ne_eq, not_true, Option.map]

theorem c04_roundtrip_ping (proto : Nat) (tl : Bytes) :
    decode proto (encPingreq ++ tl) = some (.pingreq, tl) ∧ decode proto (encPingresp ++ tl) = some (.pingresp, tl) :=
  ⟨decode_frame (hd := 0xC0) (body := []) ⟨Nat.zero_le _, rfl⟩ proto tl,
    decode_frame (hd := 0xD0) (body := []) ⟨Nat.zero_le _, rfl⟩ proto tl⟩

set_option linter.unusedVariables false in
/-- SUBSCRIBE: packet id, property block, and every (filter, options byte) pair in order -/
theorem c04_roundtrip_subscribe (proto mid : Nat) (topics : List (Bytes × Nat)) (props : Option Props) (pp body bs tl : Bytes)
    (hproto : proto = 3 ∨ proto = 4 ∨ proto = 5) (hmid : 1 ≤ mid) (hne : topics ≠ [])
    (hp : packProps proto props = .ok pp) (hb : proto = 5 → IsBlock pp body)
    (h : encSubscribe proto mid topics props = .ok bs) :
    decode proto (bs ++ tl) = some (.subscribe mid (if proto = 5 then some body else none) topics, tl) := by
  obtain ⟨pp', hpp', hm, hgood, hfr⟩ := encSubscribe_inv h
  cases hp.symm.trans hpp'
  obtain ⟨f, fs, rfl⟩ := List.exists_cons_of_ne_nil hne
  rw [decode_frame hfr]
  show (Spec.Wire.decodeBody proto 8 2 _).map _ = _
  unfold Spec.Wire.decodeBody
  simp only [↓reduceIte, Nat.reduceEqDiff, or_self, ne_eq, not_true, u16_u16b mid hm, Nat.ne_of_gt hmid,
    optProps_pp hp hb, subFilters_subBody _ hgood _ (Nat.le_refl _), Option.map]

set_option linter.unusedVariables false in
theorem c04_roundtrip_unsubscribe (proto mid : Nat) (topics : List Bytes) (props : Option Props) (pp body bs tl : Bytes)
    (hproto : proto = 3 ∨ proto = 4 ∨ proto = 5) (hmid : 1 ≤ mid) (hne : topics ≠ [])
    (hp : packProps proto props = .ok pp) (hb : proto = 5 → IsBlock pp body)
    (h : encUnsubscribe proto mid topics props = .ok bs) :
    decode proto (bs ++ tl) = some (.unsubscribe mid (if proto = 5 then some body else none) topics, tl) := by
  obtain ⟨pp', hpp', hm, hgood, hfr⟩ := encUnsubscribe_inv h
  cases hp.symm.trans hpp'
  obtain ⟨f, fs, rfl⟩ := List.exists_cons_of_ne_nil hne
  rw [decode_frame hfr]
  show (Spec.Wire.decodeBody proto 10 2 _).map _ = _
  unfold Spec.Wire.decodeBody
  simp only [↓reduceIte, Nat.reduceEqDiff, or_self, ne_eq, not_true, u16_u16b mid hm, Nat.ne_of_gt hmid,
    optProps_pp hp hb, unsubFilters_unsubBody _ hgood _ (Nat.le_refl _), Option.map]

/-- DISCONNECT in all three encodings (bare, reason code only, reason code + properties) -/
theorem c04_roundtrip_disconnect (proto : Nat) (rc : Option Nat) (props : Option Props) (pp body bs tl : Bytes)
    (hproto : proto = 3 ∨ proto = 4 ∨ proto = 5) (hrc : ∀ r, rc = some r → r ≤ 255)
    (hp : ∀ p, props = some p → p.pack = .ok pp ∧ IsBlock pp body)
    (h : encDisconnect proto rc props = .ok bs) :
    decode proto (bs ++ tl) =
      some (if proto = 5 then
              (match rc, props with
               | none, none => .disconnect none none
               | _, none => .disconnect (some (rc.getD 0)) none
               | _, some _ => .disconnect (some (rc.getD 0)) (some body))
            else .disconnect none none, tl) := by
  have bare : ∀ p, (do let rlb ← remLenEncChecked 0; pure ([b8 0xE0] ++ rlb) : Except Exc Bytes) = .ok bs →
      decode p (bs ++ tl) = some (.disconnect none none, tl) := by
    intro p h
    rw [remLenEncChecked_eq, if_pos (Nat.zero_le _)] at h
    cases h
    exact (decode_frame (hd := 0xE0) (body := []) ⟨Nat.zero_le _, rfl⟩ p tl).trans
      (congrArg (Option.map _) (decodeBody_disconnect_bare p))
  have hr : rc.getD 0 ≤ 255 := by
    cases rc with
    | none => decide
    | some r => exact hrc r rfl
  -- reason code, then what `x` packs: nothing, or the property block
  have full : ∀ (x : Except Exc Bytes) (ob : Option Bytes),
      (∀ pp', x = .ok pp' → match ob with | none => pp' = [] | some b => IsBlock pp' b) →
      (do let pp ← x; let rlb ← remLenEncChecked (1 + pp.length)
          pure ([b8 0xE0] ++ rlb ++ [b8 (rc.getD 0)] ++ pp)) = .ok bs →
      decode 5 (bs ++ tl) = some (.disconnect (some (rc.getD 0)) ob, tl) := by
    intro x ob hx h
    simp only [bind_ok, pure_ok] at h
    obtain ⟨pp', hpp', rlb, hrl, rfl⟩ := h
    have hfr : Framed 0xE0 (b8 (rc.getD 0) :: pp') _ := framed_of_enc hrl (Nat.add_comm _ 1)
    rw [List.append_assoc _ _ pp']
    refine (decode_frame hfr 5 tl).trans ?_
    rw [show (b8 0xE0).toNat / 16 = 14 from rfl, show (b8 0xE0).toNat % 16 = 0 from rfl,
      decodeBody_disconnect _ pp' ob (hx pp' hpp'), b8_toNat _ (Nat.lt_succ_of_le hr)]
    rfl
  unfold encDisconnect at h
  by_cases h5 : proto = 5
  · subst h5
    rw [if_pos rfl] at h ⊢
    cases props with
    | none =>
      cases rc with
      | none => exact bare 5 h
      | some r => exact full _ none (fun _ h => by cases h; rfl) h
    | some p =>
      have hblock : ∀ pp', p.pack = .ok pp' → IsBlock pp' body := by
        intro pp' h
        cases (hp p rfl).1.symm.trans h
        exact (hp p rfl).2
      cases rc <;> exact full _ (some body) hblock h
  · rw [if_neg h5] at h ⊢
    exact bare proto h

/-- CONNECT: protocol name/level, bridge bit, clean flag, keep-alive, client id, will (topic, payload, QoS,
retain, will properties), user name, password and CONNECT properties -/
theorem c04_roundtrip_connect (a : ConnectArgs) (pp wpp body wbody bs tl : Bytes)
    (hproto : a.proto = 3 ∨ a.proto = 4 ∨ a.proto = 5)
    (hwq : ∀ w, a.will = some w → w.qos ≤ 2)
    (hpw : a.password.isSome → a.username.isSome)
    (hp : packProps a.proto a.props = .ok pp) (hb : a.proto = 5 → IsBlock pp body)
    (hwp : ∀ w, a.will = some w → packProps a.proto w.props = .ok wpp ∧ (a.proto = 5 → IsBlock wpp wbody))
    (h : encConnect a = .ok bs) :
    decode a.proto (bs ++ tl) =
      some (.connect a.proto a.bridge a.cleanFlag a.keepalive.toNat a.clientId
              (a.will.map fun w => { topic := w.topic, payload := w.payload, qos := w.qos, retain := w.retain,
                                     props := if a.proto = 5 then some wbody else none })
              a.username a.password (if a.proto = 5 then some body else none), tl) := by
  obtain ⟨cprops, wprops, hc, hw, hk1, hk2, hcid, hwill, huser, hfr⟩ := encConnect_inv h
  cases hp.symm.trans hc
  have hwopt : ∀ w, a.will = some w → ∀ rest, Spec.Wire.optProps a.proto (wprops ++ rest) =
      some (if a.proto = 5 then some wbody else none, rest) := by
    intro w hw'
    cases (hwp w hw').1.symm.trans (hw w hw')
    exact optProps_pp (hw w hw') (hwp w hw').2
  rw [decode_frame hfr]
  show (Spec.Wire.decodeBody a.proto 1 0 _).map _ = _
  rw [decodeBody_connBody a pp wprops _ _ hproto hwq hpw (by omega) hcid hwill huser (optProps_pp hp hb) hwopt]
  rfl

/-! ## an input that cannot be represented is rejected, never emitted -/

theorem c04_reject_publish_size (proto mid : Nat) (topic payload : Bytes) (qos : Nat) (retain dup : Bool) (pp : Bytes)
    (props : Option Props) (hp : packProps proto props = .ok pp)
    (h : 2 + topic.length + payload.length + (if qos > 0 then 2 else 0) + pp.length > 268435455) :
    ∃ e, encPublish proto mid topic payload qos retain dup props = .error e := by
  refine ⟨.valueError, ?_⟩
  unfold encPublish
  simp [hp, bind, Except.bind, remLenEncChecked_eq, Nat.not_le.mpr h]

theorem c04_reject_long_string (b : Bytes) (h : b.length > 65535) : str16 b = .error .structError :=
  (str16_eq b).trans (if_neg (Nat.not_le.mpr h))

theorem c04_reject_mid (command : Nat) (mid : Int) (h : mid < 0 ∨ mid > 65535) :
    encCmdMid command mid false = .error .structError := by
  rw [encCmdMid, packU16_eq, if_neg (by omega)]
  rfl

set_option linter.unusedVariables false in
theorem c04_reject_keepalive (a : ConnectArgs) (h : a.keepalive < 0 ∨ a.keepalive > 65535)
    (hp : ∃ pp, packProps a.proto a.props = .ok pp) (hw : ∀ w, a.will = some w → ∃ wpp, packProps a.proto w.props = .ok wpp)
    (hsize : True) :
    ∀ bs, encConnect a ≠ .ok bs := by
  intro bs hbs
  obtain ⟨_, _, _, _, h1, h2, _⟩ := encConnect_inv hbs
  omega

/-! ## the CONNECT clean flag (session level) -/

/-- MQTT 3: the flag equals clean_session on every CONNECT; MQTT 5 with an explicit clean_start: equals it -/
theorem c04_clean_flag_fixed (s : S) :
    (s.proto ≠ 5 → s.connectCleanFlag = decide (s.cfg.clean = 1)) ∧
    (s.proto = 5 → s.cfg.clean ≠ 3 → s.connectCleanFlag = decide (s.cfg.clean = 1)) := by
  constructor
  · intro h; simp [S.connectCleanFlag, h]
  · intro h h3; simp [S.connectCleanFlag, h, h3]

set_option linter.unusedVariables false in
/-- MQTT 5 default (first-only): the CONNECT issued by connect() has the flag set. connect() sets
`_mqttv5_first_connect`, calls connect_async(), then reconnect(); the state below is what `S.connect` hands to
`reconnect`, which builds the CONNECT from it. -/
theorem c04_clean_first_connect (s : S) (ok : Bool) (hp : s.proto = 5) (hc : s.cfg.clean = 3) :
    ((if s.proto = 5 then { s with firstConnect := true } else s).connectAsync).connectCleanFlag = true := by
  have hk : key ((if s.proto = 5 then { s with firstConnect := true } else s).connectAsync) = ⟨s.cfg, 5, true⟩ := by
    simp [hp]
  simp only [key, Key.mk.injEq] at hk
  simp [S.connectCleanFlag, hk.1, hk.2.1, hk.2.2, hc]

/-- … and after a CONNACK with result 0 has been processed, every later reconnect() (until the next connect())
issues CONNECT with the flag clear. (Restated: the hypothesis used to read `rc = 0 ∨ rc ≥ 128`; since only a
successful CONNACK ends the "first connect", that statement is false for a refused CONNACK — witness
`c04_clean_refused_connack_witness` — and the refused case is `c04_clean_flag_refused_connack`.) -/
theorem c04_clean_after_connack (cfg : Cfg) (ops : List Op) (sp ok : Bool) (rc : Nat) (post : List Op)
    (hc : cfg.clean = 3)
    (hpost : ∀ op ∈ post, ∀ b, op ≠ .connect b)
    (hsock : (runFrom cfg 5 ops).sock.isSome)
    (hrc : rc = 0) :
    ((runFrom cfg 5 (ops ++ [.rx (.pkt (.connack sp rc)) ok] ++ post)).connectCleanFlag = false) ∨
    (∃ e, (runFrom cfg 5 (ops ++ [.rx (.pkt (.connack sp rc)) ok])).log.getLast? = some (.exc e)) := by
  obtain ⟨(hcfg : _ = cfg), h5⟩ := run_cfg_proto ops (S.init cfg 5 t0) rfl
  simp only [runFrom, S.run_append] at *
  generalize (S.init cfg 5 t0).run ops = s at *
  have hstep : S.run s [.rx (.pkt (.connack sp rc)) ok] = s.step (.rx (.pkt (.connack sp rc)) ok) := rfl
  rw [hstep]
  rcases loopRead_connack_five s sp rc ok h5 hsock hrc with ⟨n, hn⟩ | hk
  · right
    refine ⟨n, ?_⟩
    simp [S.step, S.emit, hn, hresEv]
  · left
    have hk' : key (s.step (.rx (.pkt (.connack sp rc)) ok)) = ⟨s.cfg, 5, false⟩ := by
      simpa [S.step] using hk
    simp only [key, Key.mk.injEq] at hk'
    have hf := run_fc_false post _ hk'.2.1 hk'.2.2 hpost
    have hr := run_cfg_proto post _ hk'.2.1
    simp [S.connectCleanFlag, hr.2, hr.1, hk'.1, hcfg, hc, hf]

/-- a CONNACK with a non-zero result (refused, or rejected by the reason code constructor) does not touch the flag:
the CONNECT a reconnect() would issue right after it carries the same clean start as one issued right before it.
Together with `c04_clean_after_connack`: the flag is cleared exactly by a CONNACK with result 0 -/
theorem c04_clean_flag_refused_connack (cfg : Cfg) (ops : List Op) (sp ok : Bool) (rc : Nat)
    (hrc : rc ≠ 0) :
    (runFrom cfg 5 (ops ++ [.rx (.pkt (.connack sp rc)) ok])).firstConnect = (runFrom cfg 5 ops).firstConnect ∧
    (runFrom cfg 5 (ops ++ [.rx (.pkt (.connack sp rc)) ok])).connectCleanFlag = (runFrom cfg 5 ops).connectCleanFlag := by
  have hs := run_cfg_proto ops (S.init cfg 5 t0) rfl
  simp only [runFrom, S.run_append] at *
  generalize (S.init cfg 5 t0).run ops = s at *
  have hstep : S.run s [.rx (.pkt (.connack sp rc)) ok] = s.step (.rx (.pkt (.connack sp rc)) ok) := rfl
  rw [hstep]
  have hk : key (s.step (.rx (.pkt (.connack sp rc)) ok)) = key s := by
    simpa [S.step] using loopRead_connack_five_refused s sp rc ok hs.2 hrc
  refine ⟨?_, flag_of_key hk⟩
  simp only [key, Key.mk.injEq] at hk
  exact hk.2.2

/-- witness that the former statement of `c04_clean_after_connack` (with `rc ≥ 128` allowed) no longer holds:
connect(), then CONNACK 135 (Not authorized) on the live socket: no exception, and the flag is still armed -/
theorem c04_clean_refused_connack_witness :
    (runFrom { clean := 3 } 5 [.connect true]).sock.isSome = true ∧
    (runFrom { clean := 3 } 5 ([.connect true] ++ [.rx (.pkt (.connack false 135)) true] ++ [])).connectCleanFlag = true ∧
    ¬ (∃ e, (runFrom { clean := 3 } 5 ([.connect true] ++ [.rx (.pkt (.connack false 135)) true])).log.getLast?
        = some (.exc e)) := by
  have hl : (runFrom { clean := 3 } 5 ([.connect true] ++ [.rx (.pkt (.connack false 135)) true])).log.getLast?
      = some (.ret 2 none) := by decide +kernel
  refine ⟨by decide +kernel, by decide +kernel, ?_⟩
  rintro ⟨e, he⟩
  rw [hl] at he
  cases he

/-- FULL-STRENGTH statement of the property's clause "clears it on every automatic reconnection": FALSE on the
current code (known finding F12): the flag is cleared by the first processed CONNACK, not by the first CONNECT -/
def C04_clean_start_full : Prop :=
  ∀ (cfg : Cfg) (pre mid : List Op) (b : Bool), cfg.clean = 3 → (∀ op ∈ mid, ∀ x, op ≠ .connect x) →
    -- the CONNECT that a reconnect() issued now would carry clean start = 0
    (runFrom cfg 5 (pre ++ [.connect b] ++ mid)).connectCleanFlag = false

/-- witness: connect(), the connection dies before CONNACK, then the state still has the flag armed, so the
CONNECT of the automatic reconnection carries clean start = 1 -/
theorem c04_clean_start_full_false : ¬ C04_clean_start_full := by
  intro h
  have h1 := h { clean := 3 } [] [] true rfl (by simp)
  have hk := step_connect (S.init { clean := 3 } 5 t0) true
  have he : runFrom { clean := 3 } 5 ([] ++ [.connect true] ++ []) = (S.init { clean := 3 } 5 t0).step (.connect true) := rfl
  rw [he] at h1
  simp only [key, Key.mk.injEq] at hk
  rw [S.connectCleanFlag, hk.2.1, hk.2.2, hk.1] at h1
  simp [S.init] at h1

/-! ## non-vacuity: the hypotheses of the round-trip theorems are satisfiable on concrete packets -/

example : encPublish 4 1 [116] [1, 2] 1 false false none = .ok [50, 7, 0, 1, 116, 0, 1, 1, 2] := by
  with_unfolding_all rfl

example : decode 4 ([50, 7, 0, 1, 116, 0, 1, 1, 2] ++ [9]) =
    some (.publish false 1 false [116] (some 1) none [1, 2], [9]) :=
  c04_roundtrip_publish 4 1 [116] [1, 2] 1 false false none [] [] _ [9] (by decide) (by decide) (by decide)
    (by decide) rfl nofun (by with_unfolding_all rfl)

example : encSubscribe 5 10 [([1, 2], 1)] none = .ok [130, 8, 0, 10, 0, 0, 2, 1, 2, 1] := by
  with_unfolding_all rfl

example : decode 5 ([130, 8, 0, 10, 0, 0, 2, 1, 2, 1] ++ []) = some (.subscribe 10 (some []) [([1, 2], 1)], []) :=
  c04_roundtrip_subscribe 5 10 [([1, 2], 1)] none [0] [] _ [] (by decide) (by decide) (by decide)
    rfl (fun _ => ⟨rfl, by decide⟩) (by with_unfolding_all rfl)

/-- the CONNECT the session model itself issues (MQTT 5, clean start, keep-alive 60, client id "cid") -/
example : ∃ bs, encConnect ⟨5, false, true, 60, [99, 105, 100], none, none, none, none⟩ = .ok bs :=
  ⟨[16, 16, 0, 4, 77, 81, 84, 84, 5, 2, 0, 60, 0, 0, 3, 99, 105, 100], by with_unfolding_all rfl⟩

/-- CONNECT with bridge bit, will (QoS 2, retain), user name and password, MQTT 5 -/
example : decode 5 ([16, 31, 0, 4, 77, 81, 84, 84, 133, 246, 0, 60, 0, 0, 3, 1, 2, 3, 0, 0, 1, 5, 0, 2, 6, 7, 0, 1, 8,
      0, 2, 9, 9] ++ [9]) =
    some (.connect 5 true true 60 [1, 2, 3]
      (some { topic := [5], payload := [6, 7], qos := 2, retain := true, props := some [] })
      (some [8]) (some [9, 9]) (some []), [9]) :=
  c04_roundtrip_connect ⟨5, true, true, 60, [1, 2, 3], some ⟨[5], [6, 7], 2, true, none⟩, some [8], some [9, 9], none⟩
    [0] [0] [] [] _ [9] (by decide) (by rintro _ ⟨⟩; decide) (fun _ => rfl) rfl (fun _ => ⟨rfl, by decide⟩)
    (by rintro _ ⟨⟩; exact ⟨rfl, fun _ => ⟨rfl, by decide⟩⟩) (by with_unfolding_all rfl)

end Paho
