/-
C06 over WebSockets, the two layers together: the client's packet queue and `_packet_write()` on top of
`_WebsocketWrapper._send_impl` (Paho.Model.WsWriter). The theorems hold for every sequence of `_packet_queue` appends and
`_packet_write()` calls and every behaviour of the raw socket in each send (accept k bytes, BlockingIOError, another
OSError).
-/
import PahoProofs.Lemmas.WsWriter
import PahoProofs.Properties.C06Ws

namespace Paho.WsW
open Paho Paho.Ws

/-- read `n` frames with the RFC 6455 reference parser and collect their payloads -/
def payloads : Nat → Bytes → Option (List Bytes)
  | 0, _ => some []
  | n + 1, b =>
    match parseFrame b with
    | none => none
    | some (f, rest) =>
      if f.fin = true ∧ f.rsv = 0 ∧ f.opcode = 2 ∧ f.masked = true then (payloads n rest).map (f.payload :: ·) else none

theorem wire_prefix_of_inv {s : St} (h : Inv s) : s.wire <+: (framesOf 0 s.enq).flatten := by
  rw [← List.take_append_drop s.nkeys s.enq, framesOf_append, ← h.frames, List.flatten_append, ← h.wire,
    List.append_assoc]
  exact List.prefix_append _ _

theorem done_on_wire_of_inv {s : St} (h : Inv s) : (framesOf 0 s.done).flatten <+: s.wire := by
  have hw := h.wire
  have hf := h.frames
  by_cases hb : s.ws.sendbuffer = []
  · -- idle: the frames created are those of the completed packets, and all of them went out
    rw [h.idle hb, ← h.fifo, List.take_left' rfl] at hf
    rw [hb, List.append_nil, hf] at hw
    exact hw ▸ List.prefix_refl _
  · -- busy: one more frame, of which the wrapper still holds the end
    obtain ⟨hn, ⟨p, rest, hq, _⟩, fs, pre, hlast⟩ := h.busy hb
    rw [hn, ← h.fifo, hq, List.take_length_add_append, framesOf_append, hlast] at hf
    rw [hlast, List.flatten_append, List.flatten_singleton, ← List.append_assoc] at hw
    rw [List.append_cancel_right hw, ← (List.append_inj' hf rfl).1]
    exact List.prefix_append _ _

theorem drained_of_inv {s : St} (h : Inv s) (hq : s.queue = []) :
    s.wire = (framesOf 0 s.enq).flatten ∧ s.ws.sendbuffer = [] := by
  have hb : s.ws.sendbuffer = [] := Decidable.byContradiction fun hb => by
    obtain ⟨_, ⟨p, rest, hq', _⟩, _⟩ := h.busy hb
    cases hq.symm.trans hq'
  have hd : s.done = s.enq := by rw [← h.fifo, hq]; exact (List.append_nil _).symm
  have hw := h.wire
  rw [hb, List.append_nil] at hw
  exact ⟨by rw [hw, h.frames, h.idle hb, hd, List.take_length], hb⟩

/-- nothing is lost, duplicated or reordered in the queue: completed packets followed by the queued ones are the
appended ones, in order -/
theorem c06wsw_fifo (ops : List Op) (hops : OpsOk ops) :
    let s := run {} ops
    s.done ++ s.queue.map (·.bytes) = s.enq :=
  (inv_run inv_init hops).fifo

/-- **the wire**: what the raw socket has accepted is a prefix of the concatenation of the frames of the appended
packets, one well-formed masked binary frame per packet, in append order -/
theorem c06wsw_wire_prefix (ops : List Op) (hops : OpsOk ops) :
    let s := run {} ops
    s.wire <+: (framesOf 0 s.enq).flatten :=
  wire_prefix_of_inv (inv_run inv_init hops)

/-- a packet is popped for good (and a QoS 0 publish reported as sent) only when the last byte of its frame has
been accepted: the frames of the completed packets are wholly on the wire -/
theorem c06wsw_done_on_wire (ops : List Op) (hops : OpsOk ops) :
    let s := run {} ops
    (framesOf 0 s.done).flatten <+: s.wire :=
  done_on_wire_of_inv (inv_run inv_init hops)

/-- when the queue is drained everything appended is on the wire: every packet complete, exactly once, in queue order,
and the wrapper holds nothing back -/
theorem c06wsw_drained (ops : List Op) (hops : OpsOk ops) :
    let s := run {} ops
    s.queue = [] → s.wire = (framesOf 0 s.enq).flatten ∧ s.ws.sendbuffer = [] :=
  drained_of_inv (inv_run inv_init hops)

/-- unsent bytes <=> something queued: while the wrapper holds part of a frame the packet it belongs to is still the
head of the queue (so `want_write()` stays true and the same data is offered again) -/
theorem c06wsw_pending_has_head (ops : List Op) (hops : OpsOk ops) :
    let s := run {} ops
    s.ws.sendbuffer ≠ [] → ∃ p rest, s.queue = p :: rest ∧ p.pos = 0 ∧ s.ws.requestedSize = p.bytes.length := by
  intro s hb
  have h : Inv s := inv_run inv_init hops
  obtain ⟨_, ⟨p, rest, hq, hr⟩, _⟩ := h.busy hb
  exact ⟨p, rest, hq, (h.fresh p (hq ▸ List.mem_cons_self)).1, hr⟩

/-- `_packet_write()` always returns: the loop ends with SUCCESS, AGAIN or CONN_LOST, never spins on a packet it
cannot finish (every iteration that does not return completes a packet) -/
theorem c06wsw_never_stuck (ops : List Op) (hops : OpsOk ops) (outs : List SockSend) :
    (step (run {} ops) (.write outs)).2 ≠ some .stuck :=
  fun hst => (inv_packetWrite _ _ outs (inv_run inv_init hops)).2 (by unfold fuelFor; omega) (Option.some.inj hst)

/-- the frames are what RFC 6455 says: the reference parser reads the frames of any packet list back as final masked
binary frames whose payloads are exactly the packets (packets shorter than 2^64 bytes) -/
theorem c06wsw_payloads (i : Nat) (l : List Bytes) (tail : Bytes) (hl : ∀ p ∈ l, p.length < 2 ^ 64) :
    payloads l.length ((framesOf i l).flatten ++ tail) = some l := by
  induction l generalizing i with
  | nil => rfl
  | cons p ps ih =>
    simp only [framesOf, List.flatten_cons, List.append_assoc, List.length_cons, payloads]
    rw [ws_frame_roundtrip p (keyOf i) _ rfl (hl p List.mem_cons_self)]
    simp only [and_self, if_true]
    rw [ih (i + 1) (fun q hq => hl q (List.mem_cons_of_mem _ hq))]
    rfl

/-- so, once drained, the unmasked payload stream the broker reads is the concatenation of the queued packets -/
theorem c06wsw_drained_payload (ops : List Op) (hops : OpsOk ops) :
    let s := run {} ops
    s.queue = [] → (∀ p ∈ s.enq, p.length < 2 ^ 64) → payloads s.enq.length s.wire = some s.enq := by
  intro s hq hl
  have h : Inv s := inv_run inv_init hops
  rw [(drained_of_inv h hq).1]
  simpa using c06wsw_payloads 0 s.enq [] hl

/-! non-vacuity: two packets, the first frame accepted in two parts with a packet appended in between -/
example :
    let s := run {} [.enq [0x30, 1, 65], .write [.accept 3], .enq [0x40, 2, 0, 1], .write [.wouldBlock], .write []]
    s.queue = [] ∧ s.done = [[0x30, 1, 65], [0x40, 2, 0, 1]] ∧ payloads 2 s.wire = some [[0x30, 1, 65], [0x40, 2, 0, 1]] := by
  decide +kernel

end Paho.WsW
