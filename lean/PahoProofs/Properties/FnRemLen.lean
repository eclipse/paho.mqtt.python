/-
T1, translated: `Client._pack_remaining_length`, translated from the AST of the current source by py/py2lean.py
(`Paho.Gen.FnRemLen`, regenerated on every run; the while-loop with fuel), equals for every packet prefix and every length
the model's `remLenEncChecked`, which the remaining-length and framing theorems of C04 are stated about.
-/
import Paho.Gen.FnRemLen
import PahoProofs.Lemmas.PyOps

namespace Paho.FnEq
open Paho Paho.Gen.Fn

theorem packRemainingLength_body_eq (pkt : Bytes) (n : Nat) (rb : List Int) :
    packRemainingLength_body pkt n rb =
      .ok (if n / 128 > 0 then
             .cont (pkt ++ [b8 (n % 128 + 128)], ((n / 128 : Nat) : Int), rb ++ [((n % 128 + 128 : Nat) : Int)])
           else .ret (pkt ++ [b8 (n % 128)])) := by
  simp only [packRemainingLength_body, digit_cast, more_cast]
  by_cases h : n / 128 > 0 <;>
    simp only [h, decide_true, decide_false, if_true, if_false, Bool.not_true, Bool.not_false, Bool.false_eq_true,
      bor128_mod, byteOf_low, byteOf_high, bind, Except.bind, pure, Except.pure]

theorem packRemainingLength_loop_eq (fuel : Nat) : ∀ (n : Nat) (pkt : Bytes) (rb : List Int), n < fuel →
    packRemainingLength_loop fuel (pkt, (n : Int), rb) = .ok (pkt ++ remLenEnc n) := by
  induction fuel with
  | zero => intro n _ _ h; omega
  | succ fuel ih =>
    intro n pkt rb hn
    rw [packRemainingLength_loop, packRemainingLength_body_eq, PropsLemmas.remLenEnc_step]
    by_cases h : n / 128 > 0
    · rw [if_pos h, if_pos h]
      simp only
      rw [ih _ _ _ (Nat.lt_of_lt_of_le (Nat.div_lt_self (Nat.pos_of_div_pos h) (by decide)) (Nat.le_of_lt_succ hn)),
        List.append_assoc, List.singleton_append]
    · rw [if_neg h, if_neg h]

/-- **`Client._pack_remaining_length` as the source has it now = the model's encoder**, for every packet prefix and
every length (the guard `> 268435455` included) -/
theorem fn_packRemainingLength (pkt : Bytes) (n : Nat) :
    packRemainingLength pkt (n : Int) = (remLenEncChecked n).map (pkt ++ ·) := by
  have hg : decide ((n : Int) > 268435455) = decide (n > 268435455) := by
    rw [Bool.eq_iff_iff, decide_eq_true_eq, decide_eq_true_eq]; omega
  have hm : Gen.rlGuardCmp.evalNat n Gen.rlGuardMax = decide (n > 268435455) := rfl
  rw [packRemainingLength, remLenEncChecked, hg, hm]
  by_cases h : n > 268435455
  · rw [decide_eq_true h, if_pos rfl, if_pos rfl]
    rfl
  · rw [decide_eq_false h, if_neg Bool.false_ne_true, if_neg Bool.false_ne_true, Int.toNat_natCast]
    exact (packRemainingLength_loop_eq _ n pkt [] (Nat.lt_succ_self n)).trans rfl

end Paho.FnEq
