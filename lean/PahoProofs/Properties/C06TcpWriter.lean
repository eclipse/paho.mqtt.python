/-
C06 over a raw (TCP/TLS) socket at packet granularity: the client's packet queue and `_packet_write()` with a socket
that accepts any part of what it is given (Paho.Model.TcpWriter). The theorems hold for every sequence of
`_packet_queue` appends and `_packet_write()` calls and every behaviour of the socket in each send (accept k bytes for
any k, BlockingIOError, another OSError).
-/
import PahoProofs.Lemmas.TcpWriter

namespace Paho.TcpW
open Paho Paho.Ws

/-- nothing is lost, duplicated or reordered in the queue -/
theorem c06tcp_fifo (ops : List Op) (hops : OpsOk ops) :
    let s := run {} ops
    s.done ++ s.queue.map (·.bytes) = s.enq :=
  (inv_run inv_init hops).fifo

/-- **the wire**: the bytes the socket has accepted are exactly the packets reported as sent, each complete, once, in
queue order, followed by the accepted part of the packet in flight -/
theorem c06tcp_wire (ops : List Op) (hops : OpsOk ops) :
    let s := run {} ops
    s.wire = s.done.flatten ++ headSent s.queue :=
  (inv_run inv_init hops).wire

/-- ... hence a prefix of the concatenation of everything appended, in append order -/
theorem c06tcp_wire_prefix (ops : List Op) (hops : OpsOk ops) :
    let s := run {} ops
    s.wire <+: s.enq.flatten := by
  intro s
  have h : Inv s := inv_run inv_init hops
  rw [h.wire, ← h.fifo, List.flatten_append]
  refine (List.prefix_append_right_inj _).2 ?_
  cases hq : s.queue with
  | nil => exact List.nil_prefix
  | cons p rest =>
    simp only [headSent_cons, List.map_cons, List.flatten_cons]
    exact (List.take_prefix _ _).trans (List.prefix_append _ _)

/-- a packet is popped for good - and a QoS 0 publish reported as sent (`on_publish`, `is_published()`) - only when its
last byte has been accepted: the packets reported as sent are wholly on the wire -/
theorem c06tcp_done_on_wire (ops : List Op) (hops : OpsOk ops) :
    let s := run {} ops
    s.done.flatten <+: s.wire := by
  intro s
  have h : Inv s := inv_run inv_init hops
  rw [h.wire]
  exact List.prefix_append _ _

/-- only the head of the queue can be partly written, and never completely (a complete packet is popped at once);
`to_process` is what is left of it -/
theorem c06tcp_queue_shape (ops : List Op) (hops : OpsOk ops) :
    let s := run {} ops
    (∀ p ∈ s.queue.tail, p.pos = 0) ∧
      (∀ p rest, s.queue = p :: rest → p.pos < p.bytes.length ∧ p.toProcess = (p.bytes.length : Int) - (p.pos : Int)) := by
  intro s
  have h : Inv s := inv_run inv_init hops
  exact ⟨h.fresh, fun p rest hq => h.left p (hq ▸ List.mem_cons_self)⟩

/-- when the queue is drained the wire is exactly everything appended -/
theorem c06tcp_drained (ops : List Op) (hops : OpsOk ops) :
    let s := run {} ops
    s.queue = [] → s.wire = s.enq.flatten := by
  intro s hq
  have h : Inv s := inv_run inv_init hops
  rw [h.wire, ← h.fifo, hq, List.map_nil, List.append_nil]
  exact List.append_nil _

/-- `_packet_write()` always returns (SUCCESS, AGAIN or CONN_LOST): every iteration that does not return uses up a
scripted socket outcome or, once the socket takes everything, completes a packet -/
theorem c06tcp_never_stuck (ops : List Op) (hops : OpsOk ops) (outs : List SockSend) :
    (step (run {} ops) (.write outs)).2 ≠ some .stuck :=
  fun hst => (inv_packetWrite _ _ outs (inv_run inv_init hops)).2 (by unfold fuelFor; omega) (Option.some.inj hst)

/-! non-vacuity: a packet written in three parts with a would-block in between and a packet appended meanwhile -/
example :
    let s := run {} [.enq [0x30, 2, 65, 66], .write [.accept 1, .accept 2, .wouldBlock], .enq [0xC0, 0], .write [.accept 0],
                     .write []]
    s.queue = [] ∧ s.done = [[0x30, 2, 65, 66], [0xC0, 0]] ∧ s.wire = [0x30, 2, 65, 66, 0xC0, 0] := by
  decide +kernel

end Paho.TcpW
