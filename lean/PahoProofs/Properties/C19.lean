/-
C19 — invalid arguments are rejected exactly per the MQTT grammar: the subscription-filter test (`filterCheck`), the
publish-topic test (`topicInvalid`) and the argument checks of `publish()` (`publishCheck`, `publishCheckFull`).
-/
import PahoProofs.Lemmas.Validate

namespace Paho

/-- the code's subscription-filter test accepts exactly the filters the MQTT grammar allows — for ALL byte strings -/
theorem c19_filter (bs : List UInt8) : filterCheck bs = Spec.validFilter bs := by
  have hL := levels_check (splitOn Spec.slash bs) (splitOn_ne_nil _ bs)
  rw [← hasSub_pair_eq Spec.hash Spec.slash (by decide)] at hL
  have h0 : decide (bs.length = 0) = !decide (1 ≤ bs.length) := by
    rw [← decide_not, decide_eq_decide]; omega
  have h1 : decide (bs.length > 65535) = !decide (bs.length ≤ 65535) := by
    rw [← decide_not, decide_eq_decide]; omega
  rw [filterCheck_eq, filterBad, Bool.or_assoc, hL, h0, h1, Spec.validFilter]
  simp only [Bool.not_or, Bool.not_not]

/-- the publish-topic test rejects exactly: wildcard characters anywhere, or more than 65535 bytes -/
theorem c19_topic (t : List UInt8) :
    topicInvalid t = (!Spec.validTopic t || decide (t.length > 65535)) := by
  rw [Spec.validTopic, Bool.not_and, Bool.not_not, Bool.not_not]
  rfl

theorem topicInvalid_false_iff (t : List UInt8) :
    topicInvalid t = false ↔ (Spec.validTopic t = true ∧ t.length ≤ 65535) := by
  rw [c19_topic, Bool.or_eq_false_iff, Bool.not_eq_false', decide_eq_false_iff_not, Nat.not_lt]

theorem payloadTypeOk_iff (tag : PayloadTag) : payloadTypeOk tag = true ↔ tag ≠ .other := by
  cases tag <;> simp [payloadTypeOk]

/-- every `q < 0 or q > 2` test of `publish()` / `subscribe()` (the extracted comparisons and literals are these) -/
theorem qosBad_iff (q : Int) : (decide (q < 0) || decide (q > 2)) = true ↔ ¬ (0 ≤ q ∧ q ≤ 2) := by
  rw [Bool.or_eq_true, decide_eq_true_eq, decide_eq_true_eq, Decidable.not_and_iff_not_or_not, Int.not_le, Int.not_le]

/-- with the extracted literals substituted, each test written as the failure of the documented condition -/
theorem publishCheck_eq (proto : Nat) (topic : List UInt8) (qos : Int) (tag : PayloadTag) (plen : Nat) :
    publishCheck proto topic qos tag plen =
      if ¬ (proto = 5 ∨ topic ≠ []) then some .valueError
      else if ¬ (Spec.validTopic topic = true ∧ topic.length ≤ 65535) then some .valueError
      else if ¬ (0 ≤ qos ∧ qos ≤ 2) then some .valueError
      else if tag = .other then some .typeError
      else if ¬ plen ≤ 268435455 then some .valueError
      else none := by
  have h1 : (proto ≠ 5 ∧ topic.isEmpty = true) = ¬ (proto = 5 ∨ topic ≠ []) := by
    rw [List.isEmpty_iff, not_or, Decidable.not_not]
  have h2 : (topicInvalid topic = true) = ¬ (Spec.validTopic topic = true ∧ topic.length ≤ 65535) := by
    rw [← topicInvalid_false_iff, Bool.not_eq_false]
  have h3 : ((Gen.pubQosLoCmp.evalInt qos Gen.pubQosLo || Gen.pubQosHiCmp.evalInt qos Gen.pubQosHi) = true)
      = ¬ (0 ≤ qos ∧ qos ≤ 2) := propext (qosBad_iff qos)
  have h4 : ((!payloadTypeOk tag) = true) = (tag = .other) := by
    cases tag <;> simp [payloadTypeOk]
  have h5 : (Gen.pubPayloadCmp.evalNat plen Gen.pubPayloadMax = true) = ¬ plen ≤ 268435455 := by
    show (decide (plen > 268435455) = true) = _
    rw [decide_eq_true_eq, Nat.not_le]
  simp only [publishCheck, h1, h2, h3, h4, h5]

theorem ite_some_eq_none {α : Type} {c : Prop} [Decidable c] {a : α} {r : Option α} :
    (if c then some a else r) = none ↔ ¬ c ∧ r = none := by
  split <;> simp [*]

theorem ite_some_eq_some_of_ne {α : Type} {c : Prop} [Decidable c] {a b : α} {r : Option α} (h : a ≠ b) :
    (if c then some a else r) = some b ↔ ¬ c ∧ r = some b := by
  split <;> simp [*]

/-- publish(): accepted iff every documented condition holds -/
theorem c19_publish_accept (proto : Nat) (topic : List UInt8) (qos : Int) (tag : PayloadTag) (plen : Nat) :
    publishCheck proto topic qos tag plen = none ↔
      ((proto = 5 ∨ topic ≠ []) ∧ Spec.validTopic topic = true ∧ topic.length ≤ 65535
        ∧ 0 ≤ qos ∧ qos ≤ 2 ∧ tag ≠ .other ∧ plen ≤ 268435455) := by
  simp only [publishCheck_eq, ite_some_eq_none, Decidable.not_not, and_true, and_assoc, ne_eq]

/-- what the whole of `publish()`'s validation, the packet-size test included, leaves to be true of an accepted call -/
theorem publishCheckFull_none {proto : Nat} {topic : List UInt8} {qos : Int} {tag : PayloadTag} {plen k : Nat}
    (h : publishCheckFull proto topic qos tag plen k = none) :
    topic.length ≤ 65535 ∧ 0 ≤ qos ∧ qos ≤ 2 ∧ publishRemLen topic.length plen qos k ≤ 268435455 := by
  unfold publishCheckFull at h
  split at h
  · cases h
  · rename_i hc
    obtain ⟨_, _, ht, hq0, hq2, _⟩ := (c19_publish_accept ..).1 hc
    have hrl := (ite_some_eq_none.1 h).1
    simp only [Gen.pubRemLenCmp, Gen.pubRemLenMax, Cmp.evalNat, decide_eq_true_eq, Nat.not_lt] at hrl
    exact ⟨ht, hq0, hq2, hrl⟩

/-- publish(): TypeError exactly for an unsupported payload type when topic and QoS are fine -/
theorem c19_publish_typeerror (proto : Nat) (topic : List UInt8) (qos : Int) (tag : PayloadTag) (plen : Nat) :
    publishCheck proto topic qos tag plen = some .typeError ↔
      ((proto = 5 ∨ topic ≠ []) ∧ Spec.validTopic topic = true ∧ topic.length ≤ 65535
        ∧ 0 ≤ qos ∧ qos ≤ 2 ∧ tag = .other) := by
  have hne : Exc.valueError ≠ Exc.typeError := by decide
  rw [publishCheck_eq, ite_some_eq_some_of_ne hne, ite_some_eq_some_of_ne hne, ite_some_eq_some_of_ne hne]
  simp only [Decidable.not_not, and_assoc, and_congr_right_iff]
  intro _ _ _ _ _
  by_cases ht : tag = .other
  · simp [ht]
  · simp [ht]

theorem ite_elim {α : Sort _} {S : α → Prop} {c : Prop} [Decidable c] {a b : α} (ha : S a) (hb : S b) :
    S (if c then a else b) := by
  split <;> assumption

/-- publish(): every other rejection is a ValueError -/
theorem c19_publish_errors (proto : Nat) (topic : List UInt8) (qos : Int) (tag : PayloadTag) (plen : Nat) :
    publishCheck proto topic qos tag plen = none ∨ publishCheck proto topic qos tag plen = some .valueError
      ∨ publishCheck proto topic qos tag plen = some .typeError := by
  let S (r : Option Exc) := r = none ∨ r = some .valueError ∨ r = some .typeError
  have v : S (some .valueError) := .inr (.inl rfl)
  rw [publishCheck_eq]
  show S _
  exact ite_elim v (ite_elim v (ite_elim v (ite_elim (.inr (.inr rfl)) (ite_elim v (.inl rfl)))))

/-! non-vacuity: the test really accepts and rejects ('a'=97 'b'=98 '/'=47 '+'=43 '#'=35) -/
example : filterCheck [97, 47, 43, 47, 35] = true := by decide +kernel      -- "a/+/#"
example : filterCheck [97, 47, 35, 47, 98] = false := by decide +kernel     -- "a/#/b"
example : filterCheck [97, 43] = false := by decide +kernel                 -- "a+"
example : filterCheck [] = false := by decide +kernel                       -- ""
example : filterCheck [35] = true := by decide +kernel                      -- "#"
example : filterCheck [43, 47, 43] = true := by decide +kernel              -- "+/+"
example : filterCheck [47] = true := by decide +kernel                      -- "/"
example : filterCheck [35, 47] = false := by decide +kernel                 -- "#/"
example : filterCheck [97, 35] = false := by decide +kernel                 -- "a#"
example : Spec.validFilter [97, 47, 43, 47, 35] = true := by decide +kernel
example : Spec.validFilter [97, 47, 35, 47, 98] = false := by decide +kernel
example : topicInvalid [97, 47, 98] = false := by decide +kernel
example : topicInvalid [97, 47, 43] = true := by decide +kernel
example : publishCheck 4 [97] 1 .bytes 3 = none := by decide +kernel
example : publishCheck 4 [] 1 .bytes 3 = some .valueError := by decide +kernel
example : publishCheck 5 [] 1 .bytes 3 = none := by decide +kernel
example : publishCheck 4 [97] 3 .bytes 3 = some .valueError := by decide +kernel
example : publishCheck 4 [97] 2 .other 3 = some .typeError := by decide +kernel
example : publishCheck 4 [97] 2 .str 268435456 = some .valueError := by decide +kernel

end Paho
