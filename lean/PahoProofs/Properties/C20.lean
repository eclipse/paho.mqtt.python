/-
C20 — one-shot helpers publish every message once, in order, and return what arrived.
Theorems about the helpers' callback logic (Paho.Model.Helpers), for all message lists / arrival sequences.
-/
import Paho.Model.Helpers

namespace Paho.Helpers

/-! ### publish.multiple -/

theorem runMultiple_disconnected (fuel : Nat) (s : PubSt) (hd : s.disconnected = true) : runMultiple fuel s = s := by
  cases fuel with
  | zero => rfl
  | succ n => rw [runMultiple, if_pos hd]

theorem runMultiple_eq (fuel : Nat) (s : PubSt) (hd : s.disconnected = false) (hf : s.queue.length < fuel) :
    runMultiple fuel s = { s with queue := [], published := s.published ++ s.queue, disconnected := true } := by
  induction fuel generalizing s with
  | zero => exact absurd hf (Nat.not_lt_zero _)
  | succ n ih =>
    obtain ⟨queue, published, disconnected⟩ := s
    cases hd
    rw [runMultiple, if_neg Bool.false_ne_true]
    cases queue with
    | nil => exact (runMultiple_disconnected n _ rfl).trans (by rw [List.append_nil]; rfl)
    | cons m rest =>
      exact (ih ⟨rest, published ++ [m], false⟩ rfl (Nat.lt_of_succ_lt_succ hf)).trans
        (by rw [List.append_assoc]; rfl)

/-- MAIN (publish.multiple / single): for every non-empty message list, against a responsive conforming broker the
helper hands every message to publish() exactly once, in list order, with its topic, payload, QoS and retain flag
unchanged, then calls disconnect() — and nothing else -/
theorem c20_multiple (msgs : List Msg) (hne : msgs ≠ []) :
    ∃ s, multiple msgs = some s ∧ s.published = msgs ∧ s.queue = [] ∧ s.disconnected = true := by
  obtain ⟨m, rest, rfl⟩ := List.exists_cons_of_ne_nil hne
  exact ⟨_, congrArg some (runMultiple_eq _ ⟨rest, [m], false⟩ rfl (Nat.lt_succ_of_lt (Nat.lt_succ_self _))), rfl, rfl, rfl⟩

/-- publish.single is multiple with a one-element list -/
theorem c20_single (m : Msg) : ∃ s, multiple [m] = some s ∧ s.published = [m] ∧ s.disconnected = true := by
  obtain ⟨s, h1, h2, _, h4⟩ := c20_multiple [m] (List.cons_ne_nil _ _)
  exact ⟨s, h1, h2, h4⟩

/-- a refused CONNACK makes the helper raise instead of publishing -/
theorem c20_refused (msgs : List Msg) (rc : Nat) (h : rc ≠ 0) : onConnect { queue := msgs } rc = .error () :=
  if_neg h

/-! ### `_on_message_simple`, case by case -/

/-- the code's test `message.retain and not userdata['retained']` is the negation of `keep` -/
theorem retain_test (r : Bool) (m : InMsg) : (m.retain = true ∧ (!r) = true) ↔ keep r m = false := by
  cases r <;> cases hm : m.retain <;> simp [keep, hm]

theorem onMessageSimple_skip (s : SubSt) (m : InMsg) (h : s.msgCount = 0 ∨ keep s.retained m = false) :
    onMessageSimple s m = s := by
  unfold onMessageSimple
  by_cases h0 : s.msgCount = 0
  · rw [if_pos h0]
  · rw [if_neg h0, if_pos ((retain_test _ _).2 (h.resolve_left h0))]

theorem onMessageSimple_list (s : SubSt) (m : InMsg) (h0 : s.msgCount ≠ 0) (hk : keep s.retained m = true)
    (hs : s.single = false) :
    onMessageSimple s m = { s with msgCount := s.msgCount - 1, messages := s.messages ++ [m],
                                   disconnected := s.disconnected || decide (s.msgCount = 1) } := by
  have hr := mt (retain_test s.retained m).1 (ne_false_of_eq_true hk)
  unfold onMessageSimple
  rw [if_neg h0, if_neg hr]
  simp only [hs, Bool.false_eq_true, false_and, if_false]
  by_cases h1 : s.msgCount = 1
  · rw [if_pos (by rw [h1]), decide_eq_true h1, Bool.or_true]
  · have : ¬ s.msgCount - 1 = 0 := fun h =>
      (Nat.le_one_iff_eq_zero_or_eq_one.1 (Nat.sub_eq_zero_iff_le.1 h)).elim h0 h1
    rw [if_neg this, decide_eq_false h1, Bool.or_false]

theorem onMessageSimple_one (s : SubSt) (m : InMsg) (h1 : s.msgCount = 1) (hk : keep s.retained m = true)
    (hs : s.single = true) (hres : s.result = none) :
    onMessageSimple s m = { s with msgCount := 0, result := some m, disconnected := true } := by
  have hr := mt (retain_test s.retained m).1 (ne_false_of_eq_true hk)
  unfold onMessageSimple
  rw [if_neg (by rw [h1]; exact Nat.one_ne_zero), if_neg hr]
  simp [hs, hres, h1]

/-! ### subscribe.simple -/

theorem foldl_done (s : SubSt) (arrivals : List InMsg) (h0 : s.msgCount = 0) :
    arrivals.foldl onMessageSimple s = s := by
  induction arrivals with
  | nil => rfl
  | cons m rest ih => rw [List.foldl_cons, onMessageSimple_skip s m (.inl h0), ih]

theorem simple_fold (s : SubSt) (arrivals : List InMsg) (hm : s.single = false) :
    (arrivals.foldl onMessageSimple s).messages =
      s.messages ++ (arrivals.filter (keep s.retained)).take s.msgCount ∧
    (arrivals.foldl onMessageSimple s).msgCount = s.msgCount - (arrivals.filter (keep s.retained)).length := by
  induction arrivals generalizing s with
  | nil => exact ⟨by rw [List.filter_nil, List.take_nil, List.append_nil]; rfl, rfl⟩
  | cons m rest ih =>
    rw [List.foldl_cons, List.filter_cons]
    by_cases hk : keep s.retained m = true
    · rw [if_pos hk]
      by_cases h0 : s.msgCount = 0
      · rw [onMessageSimple_skip s m (.inl h0), foldl_done s rest h0, h0, List.take_zero, List.append_nil,
          Nat.zero_sub]
        exact ⟨rfl, rfl⟩
      · have ih := ih (onMessageSimple s m)
        rw [onMessageSimple_list s m h0 hk hm] at ih ⊢
        obtain ⟨a, b⟩ := ih hm
        dsimp only at a b
        obtain ⟨k, hk⟩ := Nat.exists_eq_succ_of_ne_zero h0
        constructor
        · rw [a, hk, List.take_succ_cons, List.append_assoc]; rfl
        · rw [b, List.length_cons, Nat.sub_sub, Nat.add_comm]
    · rw [if_neg hk, onMessageSimple_skip s m (.inr (Bool.not_eq_true _ ▸ hk))]
      exact ih s hm

/-- MAIN (subscribe.simple, msg_count > 1): whatever arrives, the helper collects exactly the first msg_count messages
that are not excluded by retained=False, in arrival order -/
theorem c20_simple_list (n : Nat) (retained : Bool) (arrivals : List InMsg) (hn : n ≥ 2) :
    (simple n retained arrivals).messages = ((arrivals.filter (keep retained)).take n) := by
  have hs : (simpleInit n retained).single = false := decide_eq_false (by omega)
  exact (simple_fold (simpleInit n retained) arrivals hs).1.trans (List.nil_append _)

/-- … and disconnects exactly when the msg_count-th such message has arrived -/
theorem c20_simple_list_disconnects (n : Nat) (retained : Bool) (arrivals : List InMsg) (hn : n ≥ 2) :
    (simple n retained arrivals).msgCount = n - (arrivals.filter (keep retained)).length :=
  (simple_fold (simpleInit n retained) arrivals (decide_eq_false (by omega))).2

/-- msg_count = 1: the first kept message is returned as a bare object, later ones are ignored -/
theorem c20_simple_one (retained : Bool) (arrivals : List InMsg) :
    (simple 1 retained arrivals).result = (arrivals.filter (keep retained)).head? ∧
    (simple 1 retained arrivals).messages = [] := by
  unfold simple
  induction arrivals with
  | nil => exact ⟨rfl, rfl⟩
  | cons m rest ih =>
    rw [List.foldl_cons, List.filter_cons]
    by_cases hk : keep retained m = true
    · rw [if_pos hk, onMessageSimple_one _ m rfl hk rfl rfl, foldl_done _ rest rfl]
      exact ⟨rfl, rfl⟩
    · rw [if_neg hk, onMessageSimple_skip _ m (.inr (Bool.not_eq_true _ ▸ hk))]
      exact ih

example : (multiple [⟨[116], [1], 0, false⟩, ⟨[117], [2], 2, true⟩]).map (·.published.length) = some 2 := by decide +kernel
example : (simple 2 false [⟨[116], [], 0, true⟩, ⟨[116], [1], 0, false⟩, ⟨[116], [2], 1, false⟩, ⟨[116], [3], 1, false⟩]).messages.map (·.payload)
    = [[1], [2]] := by decide +kernel

end Paho.Helpers
