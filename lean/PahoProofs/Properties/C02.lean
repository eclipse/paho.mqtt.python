/-
C02 — QoS 2 sender never re-publishes after PUBREC; DUP discipline.
C12 — flow control: in-flight window, FIFO release, queue bound.
STATEMENTS TO PROVE.
-/
import Paho.Model.Session
import Paho.Model.SessionInv
import PahoProofs.Lemmas.SessionDefs
import PahoProofs.Lemmas.FlowInv

namespace Paho
open FlowLemmas S

/-- the session is persistent at the moment `op` is executed in `s` (the test `_check_clean_session()`
that reconnect() would make; `connect()` on MQTT 5 first re-arms the "first connect" flag) -/
def persistentAt (s : S) : Op → Bool
  | .connect _ => !(if s.proto = 5 then { s with firstConnect := true } else s).checkCleanSession
  | _ => !s.checkCleanSession

/-! ## C02 -/

theorem persistentAt_clean (s : S) (op : Op) (h : persistentAt s op = true) : cleanAt s op = false := by
  cases op <;> exact (Bool.not_eq_true' _).mp h

theorem phase_of_mem (cfg : Cfg) (proto : Nat) (ops : List Op) (m : OutMsg)
    (hm : m ∈ (runFrom cfg proto ops).out) (hp : m.state = .waitPubcomp ∨ m.state = .resendPubrel) :
    Phase m.info (view (runFrom cfg proto ops)).out ∧ m.info < (view (runFrom cfg proto ops)).ninfos ∧
    (m.qos = 2 → Q2 m.info (view (runFrom cfg proto ops)).out) := by
  have i := InfoInv.run cfg proto ops
  have heq : ∀ x ∈ (runFrom cfg proto ops).out, x.info = m.info → x = m :=
    fun x hx hxi => eq_of_nodup_map (·.info) _ i.1 hx hm hxi
  refine ⟨?_, i.2 m hm, ?_⟩
  · intro x hx hxi; rw [heq x hx hxi]; exact hp
  · intro hq x hx hxi; rw [heq x hx hxi]; exact hq

/-- once PUBREC was received (state wait_for_pubcomp / resend_pubrel), a persistent session never leaves
that phase except by completing: after any step the same message instance, if still stored, is still in
that phase — in particular after any number of reconnects without CONNACK in between. -/
-- STATEMENT CHANGED: added the hypothesis `m.qos = 2`. As written (no QoS restriction, no conformance
-- hypothesis) the statement is FALSE: `_handle_pubrec` sets wait_for_pubcomp whatever the QoS of the
-- message, so a (non-conforming) PUBREC naming a QoS 1 message puts it in the phase, and
-- `_messages_reconnect_reset_out` maps every QoS 1 message back to `publish`. Counterexample (`pcfg`, proto 4,
-- `pops` below): the run leaves (mid 1, qos 1, waitPubcomp); op := .reconnect true (persistentAt = true) yields
-- (mid 1, qos 1, publish). The claim is about the QoS 2 handshake, so it is restricted to QoS 2 messages; no
-- conformance hypothesis is needed.
theorem c02_rec_phase_closed (cfg : Cfg) (proto : Nat) (ops : List Op) (op : Op) (m : OutMsg) :
    let s := runFrom cfg proto ops
    m ∈ s.out → m.qos = 2 → (m.state = .waitPubcomp ∨ m.state = .resendPubrel) → persistentAt s op = true →
      ∀ m' ∈ (s.step op).out, m'.info = m.info → (m'.state = .waitPubcomp ∨ m'.state = .resendPubrel) := by
  intro s hm hq hp hpers m' hm' hi
  obtain ⟨h1, h2, h3⟩ := phase_of_mem cfg proto ops m hm hp
  have := (StepR.phase h1 h2 (step_tr s op).2).2 (h3 hq) (persistentAt_clean s op hpers)
  exact this m' hm' hi

/-! kernel-checked witness that the original statement (without `m.qos = 2`) is false -/

def pcfg : Cfg := { clean := 0 }
def pops : List Op :=
  [.connect true, .rx (.pkt (.connack false 0)) true, .publish 1 [116] [] false, .rx (.pkt (.pubrec 1)) true]
def pmsg (st : MS) : OutMsg :=
  { mid := 1, qos := 1, state := st, dup := false, retain := false, topic := [116], payload := [], info := 0 }

theorem pops_before : (runFrom pcfg 4 pops).out = [pmsg .waitPubcomp] := by decide +kernel
theorem pops_after : ((runFrom pcfg 4 pops).step (.reconnect true)).out = [pmsg .publish] := by decide +kernel
theorem pops_pers : persistentAt (runFrom pcfg 4 pops) (.reconnect true) = true := by decide +kernel

theorem c02_rec_phase_closed_orig_false :
    ¬ (∀ (cfg : Cfg) (proto : Nat) (ops : List Op) (op : Op) (m : OutMsg),
      let s := runFrom cfg proto ops
      m ∈ s.out → (m.state = .waitPubcomp ∨ m.state = .resendPubrel) → persistentAt s op = true →
        ∀ m' ∈ (s.step op).out, m'.info = m.info → (m'.state = .waitPubcomp ∨ m'.state = .resendPubrel)) := by
  intro h
  have := h pcfg 4 pops (.reconnect true) (pmsg .waitPubcomp) (by rw [pops_before]; simp) (Or.inl rfl) pops_pers
    (pmsg .publish) (by rw [pops_after]; simp) rfl
  simp [pmsg] at this

/-- … and no PUBLISH for that instance is handed to any connection in such a step -/
theorem c02_no_republish (cfg : Cfg) (proto : Nat) (ops : List Op) (op : Op) (m : OutMsg) :
    let s := runFrom cfg proto ops
    m ∈ s.out → (m.state = .waitPubcomp ∨ m.state = .resendPubrel) → persistentAt s op = true →
      ∀ c mid q d, Ev.qPublish c m.info mid q d ∉ newEvents s op := by
  intro s hm hp _ c mid q d hmem
  obtain ⟨h1, h2, _⟩ := phase_of_mem cfg proto ops m hm hp
  have := (StepR.phase h1 h2 (step_tr s op).2).1
  exact this c mid q d (mem_qpubs hmem rfl)

/-- the reset applied by reconnect() is idempotent on the QoS 2 phase -/
theorem c02_reset_idem (clean : Bool) (m : OutMsg) :
    (S.resetOutMsg clean (S.resetOutMsg clean m)).state = (S.resetOutMsg clean m).state := by
  rcases resetOutMsg_cases clean m with ⟨_, e⟩ | ⟨d, e, _⟩ | ⟨hcl, hq, _, e⟩
  · rw [e, e]
  · -- back in `publish`: a second reset finds nothing to undo
    rw [e]
    rcases resetOutMsg_cases clean { m with dup := d, state := .publish } with ⟨_, e'⟩ | ⟨d', e', _⟩ | ⟨_, _, hp, _⟩
    · rw [e']
    · rw [e']
    · rcases hp with h | h <;> cases h
  · -- `resend_pubrel` is inside the phase that a persistent session keeps
    rw [e]
    rcases resetOutMsg_cases clean { m with state := .resendPubrel } with ⟨h2, _⟩ | ⟨d', _, _, hn⟩ | ⟨_, _, _, e'⟩
    · exact absurd hq (Nat.ne_of_gt h2)
    · exact absurd (Or.inr rfl) (hn hcl hq)
    · rw [e']

/-- QoS 0 PUBLISH never has DUP set -/
theorem c02_dup_qos0 (cfg : Cfg) (proto : Nat) (ops : List Op) (c u mid : Nat) (d : Bool) :
    Ev.qPublish c u mid 0 d ∈ (runFrom cfg proto ops).log → d = false := by
  refine run_ind (P := fun s => GoodL s.log) (fun s op ih => ?_) ops (fun _ _ _ _ h => by simp [S.init] at h) c u mid d
  have tr := step_tr s op
  rw [tr.1]
  exact ih.append fun c u mid d h => tr.2.goodL c u mid d (mem_qpubs h rfl)

/-! ### DUP discipline

History of these two statements. With the code as first modelled they were FALSE even for a conforming broker
(defect F26): after a failed write had closed the socket inside the retransmission loop of `_handle_connack`
(or inside `_update_inflight`), the loop went on and marked further messages `wait_for_puback` / `wait_for_pubrec`
although `_send_publish` returned NO_CONN and nothing was handed to any connection; `reconnect()` then set DUP on
them and the next CONNACK sent them with DUP=1 as their very FIRST transmission. The witness was `dcfg`, proto 4,
`dops` below (conforming: `dops_conf`), where log entry 22 was `qPublish 2 1 2 1 true` with no earlier
`qPublish _ 1 ..`. An extra hypothesis ("every stored message in a waiting state has been handed") had to be assumed.

The repaired loops stop with NO_CONN as soon as the socket is gone, so that hypothesis is now a THEOREM
(`c02_wait_handed`) and both statements hold for every conforming history. `dops` is kept as a kernel-checked
regression witness: the first transmission of message 1 (log entry 22) now carries DUP=0. -/

def dcfg : Cfg := { clean := 0 }
def dops : List Op :=
  [.publish 1 [116] [] false, .publish 1 [116] [] false, .connect true, .send [.error],
   .rx (.pkt (.connack false 0)) true, .reconnect true, .rx (.pkt (.connack false 0)) true]

def notUid (u : Nat) : Ev → Bool
  | .qPublish _ u' _ _ _ => u' != u
  | _ => true

theorem dops_conf : confRun (S.init dcfg 4 t0) dops = true := by decide +kernel

/-- regression (F26 repaired): the first PUBLISH of message 1 is sent with DUP=0 … -/
theorem dops_at22 : (runFrom dcfg 4 dops).log[22]? = some (.qPublish 2 1 2 1 false) := by decide +kernel
/-- … and it is indeed its first transmission -/
theorem dops_before22 : ((runFrom dcfg 4 dops).log.take 22).all (notUid 1) = true := by decide +kernel
/-- regression (F26 repaired): after the failed retransmission pass and the reconnect, message 1 (never handed) is
still in `publish` with DUP=0 -/
theorem dops6_msg : (runFrom dcfg 4 (dops.take 6)).out[1]? =
    some { mid := 2, qos := 1, state := .publish, dup := false, retain := false, topic := [116], payload := [], info := 1 } := by
  decide +kernel
theorem dops6_log : (runFrom dcfg 4 (dops.take 6)).log.all (notUid 1) = true := by decide +kernel

/-! The conformance hypothesis `hconf` cannot be dropped: a PUBREC naming a message still in state `publish`
(never handed) moves it to `wait_for_pubcomp`, and a clean-session reconnect then sets DUP on it.
Witness (kernel-checked): `ncfg`, proto 4, `nops` below (the publish finds no connection): log entry 17 is
`qPublish 2 0 1 2 true`, the first PUBLISH of message 0; after the first 4 ops the stored message has DUP=1 and was
never handed. -/

def ncfg : Cfg := { clean := 1 }
def nops : List Op :=
  [.publish 2 [116] [] false, .connect true, .rx (.pkt (.pubrec 1)) true, .reconnect true,
   .rx (.pkt (.connack false 0)) true]

theorem nops_nonconf : confRun (S.init ncfg 4 t0) nops = false := by decide +kernel
theorem nops_at17 : (runFrom ncfg 4 nops).log[17]? = some (.qPublish 2 0 1 2 true) := by decide +kernel
theorem nops_before17 : ((runFrom ncfg 4 nops).log.take 17).all (notUid 0) = true := by decide +kernel
theorem nops4_msg : (runFrom ncfg 4 (nops.take 4)).out[0]? =
    some { mid := 1, qos := 2, state := .publish, dup := true, retain := false, topic := [116], payload := [], info := 0 } := by
  decide +kernel
theorem nops4_log : (runFrom ncfg 4 (nops.take 4)).log.all (notUid 0) = true := by decide +kernel

theorem c02_dup_only_after_handed_nonconf_false :
    ¬ (∀ (cfg : Cfg) (proto : Nat) (ops : List Op) (i : Nat) (c u mid q : Nat),
      let log := (runFrom cfg proto ops).log
      log[i]? = some (.qPublish c u mid q true) →
        ∃ j, j < i ∧ ∃ c' mid' q' d', log[j]? = some (.qPublish c' u mid' q' d')) := by
  intro h
  obtain ⟨j, hj, c', mid', q', d', hlog⟩ := h ncfg 4 nops 17 2 0 1 2 nops_at17
  have hmem : Ev.qPublish c' 0 mid' q' d' ∈ (runFrom ncfg 4 nops).log.take 17 := by
    rw [List.mem_iff_getElem?]
    exact ⟨j, by rw [List.getElem?_take, if_pos hj]; exact hlog⟩
  have := List.all_eq_true.1 nops_before17 _ hmem
  simp [notUid] at this

theorem c02_fresh_no_dup_nonconf_false :
    ¬ (∀ (cfg : Cfg) (proto : Nat) (ops : List Op) (m : OutMsg),
      let s := runFrom cfg proto ops
      m ∈ s.out → (∀ c mid q d, Ev.qPublish c m.info mid q d ∉ s.log) → m.dup = false) := by
  intro h
  have := h ncfg 4 (nops.take 4) _ (List.mem_of_getElem? nops4_msg) (by
    intro c mid q d hmem
    have := List.all_eq_true.1 nops4_log _ hmem
    simp [notUid] at this)
  simp at this

/-- a stored message in a waiting state (wait_for_puback / wait_for_pubrec) has been handed to a connection
(what defect F26 violated; once a hypothesis of the two theorems below) -/
theorem c02_wait_handed (cfg : Cfg) (proto : Nat) (ops : List Op) (m : OutMsg)
    (hconf : confRun (S.init cfg proto t0) ops = true) :
    let s := runFrom cfg proto ops
    m ∈ s.out → (m.state = .waitPuback ∨ m.state = .waitPubrec) → ∃ c mid q d, Ev.qPublish c m.info mid q d ∈ s.log := by
  intro s hm hs
  exact (dupK_run cfg proto ops hconf).2.2.2 m hm hs

/-- DUP=1 only on a PUBLISH whose message instance had been handed to a connection before -/
-- STATEMENT CHANGED with respect to the very first version: the hypothesis `hconf` (conforming broker) is added;
-- it is necessary (witness: `c02_dup_only_after_handed_nonconf_false`). The second hypothesis `hwait` that the
-- defective code needed is gone (F26 repaired). The conclusion is unchanged.
theorem c02_dup_only_after_handed (cfg : Cfg) (proto : Nat) (ops : List Op) (i : Nat) (c u mid q : Nat)
    (hconf : confRun (S.init cfg proto t0) ops = true) :
    let log := (runFrom cfg proto ops).log
    log[i]? = some (.qPublish c u mid q true) → ∃ j, j < i ∧ ∃ c' mid' q' d', log[j]? = some (.qPublish c' u mid' q' d') := by
  intro log h
  exact (dupK_run cfg proto ops hconf).1.2 i c u mid q h

/-- a stored message never handed to any connection has DUP=0 -/
-- STATEMENT CHANGED with respect to the very first version: hypothesis `hconf` added, necessary
-- (witness: `c02_fresh_no_dup_nonconf_false`); the former hypothesis `hwait` is gone (F26 repaired).
theorem c02_fresh_no_dup (cfg : Cfg) (proto : Nat) (ops : List Op) (m : OutMsg)
    (hconf : confRun (S.init cfg proto t0) ops = true) :
    let s := runFrom cfg proto ops
    m ∈ s.out → (∀ c mid q d, Ev.qPublish c m.info mid q d ∉ s.log) → m.dup = false := by
  intro s hm hno
  have k := (dupK_run cfg proto ops hconf).1
  cases hd : m.dup with
  | false => rfl
  | true =>
    obtain ⟨c, mid, q, d, h⟩ := k.1 m hm (Or.inl hd)
    exact absurd h (hno c mid q d)

/-! ## C12 -/

/-- with a conforming broker the in-flight counter equals the number of messages in a waiting state -/
theorem c12_inflight_count (cfg : Cfg) (proto : Nat) (ops : List Op)
    (hconf : confRun (S.init cfg proto t0) ops = true) :
    (runFrom cfg proto ops).invInflightCount = true :=
  invInflightCount_of _ (InvA.run cfg proto ops hconf)

/-- no idle slot: on an established connection no accepted message waits while a window slot is free -/
theorem c12_no_idle_slot (cfg : Cfg) (proto : Nat) (ops : List Op)
    (hconf : confRun (S.init cfg proto t0) ops = true) :
    (runFrom cfg proto ops).invNoIdleSlot = true :=
  invNoIdleSlot_of _ (InvA.run cfg proto ops hconf)

theorem c12_queued_behind_full (cfg : Cfg) (proto : Nat) (ops : List Op)
    (hconf : confRun (S.init cfg proto t0) ops = true) :
    (runFrom cfg proto ops).invQueuedBehindFull = true :=
  invQueuedBehindFull_of _ (InvA.run cfg proto ops hconf)

/-- the epilogue of `publish()` touches only the MQTTMessageInfo and the log -/
theorem setInfo_ret_proj (X : S) (j : Nat) (f : Info → Info) (e : Ev) :
    ((X.setInfo j f).emit e).out = X.out ∧ ((X.setInfo j f).emit e).outq = X.outq ∧
    ((X.setInfo j f).emit e).inflight = X.inflight ∧ ((X.setInfo j f).emit e).sock = X.sock ∧
    ((X.setInfo j f).emit e).log = X.log ++ [e] :=
  have h : ∀ Y : S, (Y.emit e).out = Y.out ∧ (Y.emit e).outq = Y.outq ∧ (Y.emit e).inflight = Y.inflight ∧
      (Y.emit e).sock = Y.sock ∧ (Y.emit e).log = Y.log ++ [e] := fun _ => ⟨rfl, rfl, rfl, rfl, rfl⟩
  h (X.setInfo j f)

/-- queue bound: publish() (QoS>0, valid arguments) refuses with QUEUE_SIZE exactly when M messages are
already outstanding (or the fresh id collides), and then stores, queues and writes nothing -/
theorem c12_queue_bound (s : S) (qos : Nat) (topic payload : Bytes) (retain : Bool)
    (hq : qos = 1 ∨ qos = 2)
    (hvalid : publishCheckFull s.proto topic qos .bytes payload.length (if s.proto = 5 then 1 else 0) = none) :
    let s' := s.publish qos topic payload retain
    let refused := (s.cfg.maxQueued > 0 ∧ s.out.length ≥ s.cfg.maxQueued) ∨ s.out.any (·.mid = midNext s.lastMid) = true
    (refused → s'.out = s.out ∧ s'.outq = s.outq ∧ s'.inflight = s.inflight ∧ s'.sock = s.sock ∧
        s'.log = s.log ++ [.ret rcQueueSize (some (midNext s.lastMid))]) ∧
    (¬ refused → ∃ rc, rc ≠ rcQueueSize ∧ s'.log.getLast? = some (.ret rc (some (midNext s.lastMid))) ∧ s'.out.length = s.out.length + 1) := by
  fun_cases publish s qos topic payload retain
  case case1 h => exact absurd (hvalid.symm.trans h) nofun
  case case2 e _ h => exact absurd (hvalid.symm.trans h) nofun
  case case3 hv mid s0 idx s1 h0 s' rc hx => rcases hq with h | h <;> exact absurd (h.symm.trans h0) (by decide)
  case case4 hv mid s0 idx s1 h0 href =>
    exact ⟨fun _ => setInfo_ret_proj s1 _ _ _, fun hn => absurd (Or.inl href) hn⟩
  case case5 hv mid s0 idx s1 h0 _ href =>
    exact ⟨fun _ => setInfo_ret_proj s1 _ _ _, fun hn => absurd (Or.inr href) hn⟩
  case case6 hv mid s0 idx s1 h0 h1 h2 m0 hwin m s2 s3 rc hx s4 =>
    refine ⟨fun hr => hr.elim (absurd · h1) (absurd · h2), fun _ => ⟨rc, ?_, ?_, ?_⟩⟩
    · exact (eq_fst_snd hx).2 ▸ (sendPublish_rc s2 mid topic payload qos retain false (some idx) true (some idx)).ne_queueSize
    · exact (congrArg List.getLast? (setInfo_ret_proj s4 _ _ _).2.2.2.2).trans List.getLast?_concat
    · have e3 : s3.out = s2.out := by
        rw [(eq_fst_snd hx).1]
        exact (sendPublish_same ..).2.2.2.2.1
      have : s4.out.length = s3.out.length := by
        by_cases hnc : rc = rcNoConn
        · rw [show s4 = { s3 with inflight := s3.inflight - 1, out := s3.out.map _ } from if_pos hnc]
          exact List.length_map _
        · rw [show s4 = s3 from if_neg hnc]
      rw [(setInfo_ret_proj s4 _ _ _).1, this, e3]; exact List.length_append
  case case7 hv mid s0 idx s1 h0 h1 h2 m0 hwin s2 =>
    refine ⟨fun hr => hr.elim (absurd · h1) (absurd · h2), fun _ => ⟨rcSuccess, by decide, ?_, ?_⟩⟩
    · exact (congrArg List.getLast? (setInfo_ret_proj s2 _ _ _).2.2.2.2).trans List.getLast?_concat
    · exact List.length_append

/-- QoS 0 is never refused for queue reasons -/
theorem c12_qos0_not_refused (s : S) (topic payload : Bytes) (retain : Bool) :
    Ev.ret rcQueueSize (some (midNext s.lastMid)) ∉ (s.publish 0 topic payload retain).log.drop s.log.length := by
  fun_cases publish s 0 topic payload retain
  case case1 => simp
  case case2 => simp
  case case3 hv mid s0 idx s1 _ s' rc hx =>
    obtain ⟨h3, hrc⟩ := eq_fst_snd hx
    -- `_send_publish` returns its result, it does not report one
    obtain ⟨hnr, _, _, _, _, _, _, _, hlog⟩ := (frameP fun e => !isRet e).sendPublish
      (fun e he => (lowEv_class e he).2) mid topic payload 0 retain false (some idx) true (some idx)
      (fun _ _ _ => rfl) ((frameP _).refl s1)
    rw [← h3] at hnr hlog
    rw [(setInfo_ret_proj s' _ _ _).2.2.2.2, hlog, List.append_assoc, List.drop_left, List.mem_append, not_or]
    refine ⟨fun hmem => Bool.noConfusion (hnr _ hmem), fun hmem => ?_⟩
    have hne := hrc ▸ (sendPublish_rc s1 mid topic payload 0 retain false (some idx) true (some idx)).ne_queueSize
    cases List.mem_singleton.1 hmem
    exact hne rfl
  all_goals exact absurd rfl ‹¬ 0 = 0›

/-- THE WINDOW, full strength (known to be FALSE on the current code: finding F4) -/
def C12_window_full : Prop :=
  ∀ (cfg : Cfg) (proto : Nat) (ops : List Op), confRun (S.init cfg proto t0) ops = true → cfg.maxInflight > 0 →
    (runFrom cfg proto ops).inflight ≤ cfg.maxInflight

/-- witness: N=1, three QoS 1 publishes, reconnect, CONNACK → 3 in flight -/
def wcfg : Cfg := { maxInflight := 1 }
def wops : List Op :=
  [.connect true, .rx (.pkt (.connack false 0)) true, .publish 1 [116] [] false, .publish 1 [116] [] false,
   .publish 1 [116] [] false, .reconnect true, .rx (.pkt (.connack false 0)) true]

theorem wops_conf : confRun (S.init wcfg 4 t0) wops = true := by decide +kernel
theorem wops_inflight : (runFrom wcfg 4 wops).inflight = 3 := by decide +kernel

theorem c12_window_full_false : ¬ C12_window_full := by
  intro h
  have := h wcfg 4 wops wops_conf (by decide)
  rw [wops_inflight] at this
  exact absurd this (by decide)

/-- THE WINDOW, what holds: the counter exceeds N only by what the retransmission after an accepted CONNACK
adds; precisely, for histories in which every accepted CONNACK finds at most N stored messages, the window
is respected throughout -/
theorem c12_window_partial (cfg : Cfg) (proto : Nat) (ops : List Op)
    (hconf : confRun (S.init cfg proto t0) ops = true) (hN : cfg.maxInflight > 0)
    (hsmall : ∀ (pre : List Op) (sp ok : Bool) (post : List Op), ops = pre ++ [.rx (.pkt (.connack sp 0)) ok] ++ post →
        (runFrom cfg proto pre).out.length ≤ cfg.maxInflight) :
    (runFrom cfg proto ops).inflight ≤ cfg.maxInflight := by
  have h := window_run cfg proto hN ops [] (by simpa [runFrom, S.run] using hconf)
    (fun p sp ok q e => hsmall p sp ok q (by simpa using e))
    (by simpa [runFrom, S.run] using InvA.init cfg proto t0)
    (by simp [Win, view, runFrom, S.run, S.init])
  have hcfg := runFrom_cfg cfg proto ops
  simpa [Win, view, hcfg] using h

end Paho
