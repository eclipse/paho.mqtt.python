/-
C18 — the client API may be called from inside any callback without self-deadlock (lock-discipline part).
The quantifier is the finite table extracted from the source: {every user-callback call site × every set of locks
that may be held there} × {publish, subscribe, unsubscribe, disconnect, reconnect, message_callback_add,
message_callback_remove, loop_stop} × {every blocking acquisition reachable from that call} × {every configuration
of installed optional callbacks}. `decide +kernel` over the whole table is a proof, not a sample.
-/
import Paho.Model.Locks

namespace Paho.Locks

/-- the optional callbacks and path conditions that guard acquisitions -/
def allGuards : List String :=
  ["on_log", "on_pre_connect", "on_connect", "on_connect_fail", "on_subscribe", "on_message", "on_publish", "on_unsubscribe",
   "on_disconnect", "on_socket_open", "on_socket_close", "on_socket_register_write", "on_socket_unregister_write"]

/-- inside a callback on the network-loop thread: everything may be installed, and we ARE the loop thread -/
def cfgAll : String → Bool := fun g => g != "not-loop-thread"

/-- monotonicity: installing fewer callbacks can only remove deadlocks -/
theorem selfDeadlock_mono (held : List LockId) (i j : String → Bool) (a : Acq)
    (h : ∀ g, i g = true → j g = true) : selfDeadlock held i a = true → selfDeadlock held j a = true := by
  unfold selfDeadlock
  simp only [Bool.and_eq_true, List.all_eq_true]
  rintro ⟨⟨⟨h1, h2⟩, h3⟩, h4⟩
  exact ⟨⟨⟨h1, h2⟩, h3⟩, fun g hg => h g (h4 g hg)⟩

/-- the extracted lock kinds: exactly the two reentrant locks the design relies on -/
theorem c18_lock_kinds :
    Gen.lockKinds = [(.inCallback, false), (.callback, true), (.msgtime, false), (.outMessage, true),
                     (.inMessage, false), (.reconnectDelay, false), (.midGenerate, false)] := by decide

/-- FULL-STRENGTH statement: no API call made inside any callback can block forever on a lock. FALSE on the current
code (known finding F17). -/
def C18_no_self_deadlock_full : Prop := deadlocks cfgAll = []

/-- what holds: in the worst-case configuration (every optional callback installed), the ONLY self-deadlocks are
`reconnect()` re-acquiring `_in_callback_mutex` through `_call_socket_open` / `_call_socket_close`
(i.e. with on_socket_open / on_socket_close installed) from a callback that runs under that lock -/
theorem c18_only_reconnect_socket_callbacks :
    (deadlocks cfgAll).all (fun (x : String × List LockId × String × Acq) =>
      x.2.2.1 == "reconnect" && x.2.2.2.lock == .inCallback &&
      (x.2.2.2.guards.contains "on_socket_open" || x.2.2.2.guards.contains "on_socket_close")) = true := by
  decide +kernel

/-- a self-deadlock of a call made on the loop thread, under any configuration, is an entry of the table computed for
the worst-case configuration -/
theorem mem_deadlocks_cfgAll {site : String} {held : List LockId} {api : String} {a : Acq} {installed : String → Bool}
    (hs : (site, held) ∈ siteHelds) (hapi : api ∈ apis) (ha : a ∈ apiAcqs api)
    (hloop : installed "not-loop-thread" = false) (hd : selfDeadlock held installed a = true) :
    (site, held, api, a) ∈ deadlocks cfgAll := by
  have hmono := selfDeadlock_mono held installed cfgAll a (fun g hg => by
    rw [cfgAll, bne_iff_ne]
    rintro rfl
    rw [hloop] at hg
    cases hg) hd
  unfold deadlocks
  refine List.mem_flatten.2 ⟨_, List.mem_map.2 ⟨(site, held), hs, rfl⟩, ?_⟩
  refine List.mem_flatten.2 ⟨_, List.mem_map.2 ⟨api, hapi, rfl⟩, ?_⟩
  exact List.mem_map.2 ⟨a, List.mem_filter.2 ⟨ha, hmono⟩, rfl⟩

/-- … so for every API other than reconnect(), from every callback site, under EVERY configuration: no self-deadlock -/
theorem c18_no_self_deadlock_partial (site : String) (held : List LockId) (api : String) (a : Acq) (installed : String → Bool)
    (hs : (site, held) ∈ siteHelds) (hapi : api ∈ apis) (hne : api ≠ "reconnect") (ha : a ∈ apiAcqs api)
    (hloop : installed "not-loop-thread" = false) :
    selfDeadlock held installed a = false := by
  refine Bool.eq_false_iff.2 fun hd => ?_
  have h := List.all_eq_true.1 c18_only_reconnect_socket_callbacks _ (mem_deadlocks_cfgAll hs hapi ha hloop hd)
  rw [Bool.and_eq_true, Bool.and_eq_true, beq_iff_eq] at h
  exact hne h.1.1

/-- reconnect() itself is safe when neither on_socket_open nor on_socket_close is installed -/
theorem c18_reconnect_without_socket_callbacks (site : String) (held : List LockId) (a : Acq) (installed : String → Bool)
    (hs : (site, held) ∈ siteHelds) (ha : a ∈ apiAcqs "reconnect")
    (hloop : installed "not-loop-thread" = false)
    (ho : installed "on_socket_open" = false) (hc : installed "on_socket_close" = false) :
    selfDeadlock held installed a = false := by
  refine Bool.eq_false_iff.2 fun hd => ?_
  have h := List.all_eq_true.1 c18_only_reconnect_socket_callbacks _
    (mem_deadlocks_cfgAll hs (by decide) ha hloop hd)
  -- the deadlocking path needs one of the two callbacks, and all its guards are installed
  have hg : ∀ g ∈ a.guards, installed g = true := by
    unfold selfDeadlock at hd
    exact List.all_eq_true.1 (Bool.and_eq_true_iff.1 hd).2
  rw [Bool.and_eq_true, Bool.or_eq_true, List.contains_iff_mem, List.contains_iff_mem] at h
  rcases h.2 with h | h
  · exact absurd (hg _ h) (by rw [ho]; exact Bool.false_ne_true)
  · exact absurd (hg _ h) (by rw [hc]; exact Bool.false_ne_true)

/-- WITNESS (known finding F17): reconnect() inside on_disconnect with on_socket_open installed blocks forever -/
theorem c18_full_false : ¬ C18_no_self_deadlock_full := by
  unfold C18_no_self_deadlock_full
  decide +kernel

/-- loop_stop() called from a callback on the loop thread does not join itself -/
theorem c18_no_self_join (a : Acq) (ha : a ∈ apiAcqs "loop_stop") (hl : a.lock = .threadJoin) :
    a.guards.contains "not-loop-thread" = true := by
  revert a
  decide +kernel

/-- non-vacuity: the table is not empty -/
example : siteHelds.length ≥ 14 ∧ (apiAcqs "publish").length ≥ 5 ∧ (apiAcqs "reconnect").length ≥ 5 := by decide +kernel

end Paho.Locks
