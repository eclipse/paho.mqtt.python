/-
T1, translated: `Client._check_keepalive` - the decision part of the keep-alive (C08; the branch that gives up on the
connection is also where C10's "exactly one on_disconnect, result success iff disconnect() was called" is decided) - with
`_send_pingreq`, `loop_misc` and `_handle_pingresp`.
py/py2lean.py translates each method from the AST of the current source into the sequence of calls and attribute assignments
it makes (`Paho.Gen.FnKeepalive`, regenerated on every run); executing that sequence with the model's `sendSimple` /
`sockClose` / `doOnDisconnect` is the session model's `checkKeepalive` (`loopMisc`), for every state whose timers are not ahead
of the clock (which `c08_time_inv` proves of every reachable state).
FnLoopRc.lean and FnSockCb.lean use `csCode`, `sockId` and `closeEffs` too.
-/
import Paho.Gen.FnKeepalive
import PahoProofs.Lemmas.Timer2
import PahoProofs.Lemmas.OutFrame

namespace Paho.FnEq
open Paho Paho.Py Paho.Gen.Fn

/-- the integer value of `_ConnectionState` (enums.py, `enum.auto()`); the members the method names are generated constants -/
def csCode : ConnState → Int
  | .new => 1
  | .connectAsync => 2
  | .connecting => 3
  | .connected => c__ConnectionState_MQTT_CS_CONNECTED
  | .connectionLost => c__ConnectionState_MQTT_CS_CONNECTION_LOST
  | .disconnecting => c__ConnectionState_MQTT_CS_DISCONNECTING
  | .disconnected => c__ConnectionState_MQTT_CS_DISCONNECTED

theorem csCode_inj (a b : ConnState) : csCode a = csCode b ↔ a = b := by
  cases a <;> cases b <;> decide

/-- one step of a translated method, executed on the model: the methods called are the model's functions of the same name
(`_send_pingreq` = `_send_simple_command(PINGREQ)` + `_ping_t = now` on success) -/
def runEff (s : S) : MEff → S
  | .call "_send_pingreq" [] =>
    let (s', rc) := s.sendSimple 0xC0
    if rc = rcSuccess then { s' with pingT := s'.now } else s'
  | .call "_sock_close" [] => s.sockClose
  | .call "_check_keepalive" [] => s.checkKeepalive
  | .call "_do_on_disconnect" [fromBroker, rc] => s.doOnDisconnect rc (fromBroker != 0)
  | .setInt "_state" v =>
    if v = c__ConnectionState_MQTT_CS_DISCONNECTED then { s with cstate := .disconnected }
    else if v = c__ConnectionState_MQTT_CS_CONNECTION_LOST then { s with cstate := .connectionLost }
    else s
  | .call "_send_simple_command" [cmd] => (s.sendSimple cmd.toNat).1
  | .setInt "_ping_t" v => { s with pingT := v.toNat }
  | .setInt "_last_msg_out" v => { s with lastOut := v.toNat }
  | .setInt "_last_msg_in" v => { s with lastIn := v.toNat }
  | _ => s

def runEffs (s : S) (effs : List MEff) : S := effs.foldl runEff s

/-- the arguments of the translated method read off a model state (times in milliseconds on both sides) -/
def kaEffs (s : S) : Except Exc (List MEff) :=
  Gen.Fn.checkKeepalive ((s.cfg.keepalive * 1000 : Nat) : Int) (s.lastOut : Int) (s.lastIn : Int) (csCode s.cstate) (s.pingT : Int)
    s.sock.isSome (s.now : Int) false

/-- the test `self._state in (MQTT_CS_DISCONNECTING, MQTT_CS_DISCONNECTED)` -/
theorem csCode_disc (t : S) : (csCode t.cstate == c__ConnectionState_MQTT_CS_DISCONNECTING ||
    csCode t.cstate == c__ConnectionState_MQTT_CS_DISCONNECTED) = t.disconnectingOrDone := by
  unfold S.disconnectingOrDone
  cases t.cstate <;> rfl

/-- giving up on the connection (`_check_keepalive`, `loop_misc`: `rc` = 16; `_loop_rc_handle`: the result it was given):
close, state and result by whether disconnect() had been called, one on_disconnect -/
def closeEffs (discCalled : Bool) (rc : Int) : List MEff :=
  if discCalled then
    [.call "_sock_close" [], .setInt "_state" c__ConnectionState_MQTT_CS_DISCONNECTED, .call "_do_on_disconnect" [0, 0]]
  else
    [.call "_sock_close" [], .setInt "_state" c__ConnectionState_MQTT_CS_CONNECTION_LOST, .call "_do_on_disconnect" [0, rc]]

theorem disconnectingOrDone_sockClose (t : S) : t.sockClose.disconnectingOrDone = t.disconnectingOrDone := by
  unfold S.disconnectingOrDone; rw [SessAct.sockClose_cstate]

theorem run_closeEffs (t : S) (rc : Int) : runEffs t (closeEffs t.disconnectingOrDone rc) =
    if t.sockClose.disconnectingOrDone then ({ t.sockClose with cstate := .disconnected } : S).doOnDisconnect rcSuccess false
    else ({ t.sockClose with cstate := .connectionLost } : S).doOnDisconnect rc false := by
  rw [disconnectingOrDone_sockClose]
  cases t.disconnectingOrDone <;> rfl

theorem run_kaClose (t : S) : runEffs t (closeEffs t.disconnectingOrDone 16) = TimerLemmas.kaClose t :=
  run_closeEffs t 16

theorem run_kaPing (s : S) :
    runEffs s [.call "_send_pingreq" [], .setInt "_last_msg_out" s.now, .setInt "_last_msg_in" s.now] =
      TimerLemmas.kaPing s := by
  have hnow := (TimerLemmas.sendSimple_fr (g := false) (t := s) (command := 0xC0) nofun).1.now
  -- both timers are set to the clock of the state `u` that `_send_pingreq` leaves
  have stamp (u : S) (h : u.now = s.now) : runEffs u [.setInt "_last_msg_out" s.now, .setInt "_last_msg_in" s.now] =
      { u with lastOut := u.now, lastIn := u.now } := by
    simp only [runEffs, List.foldl, runEff, Int.toNat_natCast, h]
  rw [runEffs, List.foldl_cons]
  unfold TimerLemmas.kaPing
  simp only [runEff]
  generalize s.sendSimple 0xC0 = p at hnow ⊢
  obtain ⟨s', rc⟩ := p
  exact stamp _ (TimerLemmas.ite_ind (P := fun u : S => u.now = s.now) hnow hnow)

theorem checkKeepalive_run (k lo li st pt : Int) (op : Bool) (now : Int) :
    Gen.Fn.checkKeepalive k lo li st pt op now false = .ok (
      if k = 0 then []
      else if op = true ∧ (now - lo ≥ k ∨ now - li ≥ k) then
        if st = c__ConnectionState_MQTT_CS_CONNECTED ∧ pt = 0 then
          [.call "_send_pingreq" [], .setInt "_last_msg_out" now, .setInt "_last_msg_in" now]
        else closeEffs (st == c__ConnectionState_MQTT_CS_DISCONNECTING || st == c__ConnectionState_MQTT_CS_DISCONNECTED) 16
      else []) := by
  unfold Gen.Fn.checkKeepalive
  simp only [closeEffs, pure, Except.pure, List.nil_append, List.cons_append, Bool.false_eq_true, if_false, beq_iff_eq,
    Bool.and_eq_true, Bool.or_eq_true, decide_eq_true_eq, apply_ite Except.ok]

/-- **`Client._check_keepalive` as the source has it now = the model's `checkKeepalive`**: for every state whose activity
timers are not ahead of the clock the translated method raises nothing and the calls and assignments it makes - PINGREQ and
both timers refreshed when idle for K with no ping outstanding; otherwise close, state DISCONNECTED / CONNECTION_LOST by whether
disconnect() had been called, one on_disconnect with result success / MQTT_ERR_KEEPALIVE - executed on the model give exactly
`checkKeepalive s` -/
theorem fn_checkKeepalive (s : S) (ho : s.lastOut ≤ s.now) (hi : s.lastIn ≤ s.now) :
    ∃ effs, kaEffs s = .ok effs ∧ runEffs s effs = s.checkKeepalive := by
  refine ⟨_, checkKeepalive_run .., ?_⟩
  have ek : (((s.cfg.keepalive * 1000 : Nat) : Int) = 0) ↔ s.cfg.keepalive = 0 := by omega
  have eidle : ((s.now : Int) - s.lastOut ≥ ((s.cfg.keepalive * 1000 : Nat) : Int) ∨
      (s.now : Int) - s.lastIn ≥ ((s.cfg.keepalive * 1000 : Nat) : Int)) ↔ TimerLemmas.idleB s = true := by
    rw [TimerLemmas.idleB_true]; omega
  have econn : (csCode s.cstate = c__ConnectionState_MQTT_CS_CONNECTED ∧ (s.pingT : Int) = 0) ↔
      (s.cstate = .connected ∧ s.pingT = 0) := and_congr (csCode_inj s.cstate .connected) Int.natCast_eq_zero
  rw [TimerLemmas.checkKeepalive_eq]
  simp only [ek, eidle, econn, csCode_disc]
  by_cases hk : s.cfg.keepalive = 0
  · rw [if_pos hk, if_pos hk]; rfl
  rw [if_neg hk, if_neg hk]
  cases s.sock with
  | none => rfl
  | some c =>
    simp only [Option.isSome_some, true_and]
    by_cases hidle : TimerLemmas.idleB s = true
    · rw [if_pos hidle, if_pos hidle]
      by_cases hc : s.cstate = .connected ∧ s.pingT = 0
      · rw [if_pos hc, if_pos hc]; exact run_kaPing s
      · rw [if_neg hc, if_neg hc]; exact run_kaClose s
    · rw [if_neg hidle, if_neg hidle]; rfl

/-- **`Client._send_pingreq` as the source has it now** is what the interpreter above executes for the call `_send_pingreq()`:
the PINGREQ goes through `_send_simple_command`, the result of that call is returned, and `_ping_t` is set to the current time
exactly when that result is MQTT_ERR_SUCCESS - so `fn_checkKeepalive` rests on translated code for this callee too -/
theorem fn_sendPingreq (s : S) :
    ∃ effs, Gen.Fn.sendPingreq (s.now : Int) (s.sendSimple 0xC0).2 = .ok ((s.sendSimple 0xC0).2, effs) ∧
      runEffs s effs = runEff s (.call "_send_pingreq" []) := by
  have hnow := (TimerLemmas.sendSimple_fr (g := false) (t := s) (command := 0xC0) nofun).1.now
  unfold Gen.Fn.sendPingreq
  cases hsend : s.sendSimple 0xC0 with
  | mk s' rc =>
    rw [hsend] at hnow
    simp only at hnow
    by_cases hrc : rc = 0
    · refine ⟨[.call "_send_simple_command" [c_PINGREQ], .setInt "_ping_t" s.now], ?_, ?_⟩
      · simp [hrc, pure, Except.pure]
      · simp [runEffs, runEff, c_PINGREQ, hsend, hrc, rcSuccess, hnow]
    · refine ⟨[.call "_send_simple_command" [c_PINGREQ]], ?_, ?_⟩
      · have : (rc == 0) = false := by rw [beq_eq_false_iff_ne]; exact hrc
        simp [this, pure, Except.pure]
      · simp [runEffs, runEff, c_PINGREQ, hsend, hrc, rcSuccess]

/-- **`Client._handle_pingresp` as the source has it now**: a PINGRESP with remaining length 0 clears the outstanding-PINGREQ
marker and nothing else - executed on the model that is what the session model does with a PINGRESP (`packetHandle`,
theorem c08_pingresp) -; any other remaining length is a protocol error and changes nothing -/
theorem fn_handlePingresp (s : S) (now : Int) (rl : Nat) :
    Gen.Fn.handlePingresp (rl : Int) now =
      .ok (if rl = 0 then ((0 : Int), [MEff.setInt "_ping_t" 0]) else ((2 : Int), [])) ∧
    runEffs s [MEff.setInt "_ping_t" 0] = { s with pingT := 0 } := by
  constructor
  · unfold Gen.Fn.handlePingresp
    by_cases h : rl = 0
    · subst h; simp [pure, Except.pure]
    · have : ((rl : Int) != 0) = true := by simp; omega
      simp [h, this, pure, Except.pure]
  · simp [runEffs, runEff]

/-- a socket as an object reference: 0 = None -/
def sockId : Option Nat → Int
  | none => 0
  | some c => (c : Int) + 1

/-- the arguments of the translated `loop_misc` read off a model state; the attributes it reads again after the call of
`_check_keepalive()` are those of the model's state after `checkKeepalive` -/
def lmRun (s : S) : Except Exc (Int × List MEff) :=
  let s1 := s.checkKeepalive
  Gen.Fn.loopMisc (sockId s.sock) ((s.cfg.keepalive * 1000 : Nat) : Int) (csCode s.cstate) (s.pingT : Int) (s.now : Int)
    (sockId s1.sock) (s1.pingT : Int) ((s1.cfg.keepalive * 1000 : Nat) : Int) (csCode s1.cstate)

theorem sockId_ne (c : Nat) : sockId (some c) ≠ 0 := by
  show (c : Int) + 1 ≠ 0
  omega

theorem sockId_bne (c : Nat) : (sockId (some c) != 0) = true := bne_iff_ne.mpr (sockId_ne c)

theorem loopMisc_run (sock k st pt now sock1 pt1 k1 st1 : Int) :
    Gen.Fn.loopMisc sock k st pt now sock1 pt1 k1 st1 = .ok (
      if sock = 0 then (4, [])
      else if sock1 ≠ sock then (7, [.call "_check_keepalive" []])
      else if pt1 > 0 ∧ now - pt1 ≥ k1 then
        (7, .call "_check_keepalive" [] ::
          closeEffs (st1 == c__ConnectionState_MQTT_CS_DISCONNECTING || st1 == c__ConnectionState_MQTT_CS_DISCONNECTED) 16)
      else (0, [.call "_check_keepalive" []])) := by
  unfold Gen.Fn.loopMisc
  simp only [closeEffs, pure, Except.pure, List.nil_append, List.cons_append, Bool.false_eq_true, if_false, beq_iff_eq,
    bne_iff_ne, Bool.and_eq_true, Bool.or_eq_true, decide_eq_true_eq, apply_ite Except.ok, apply_ite (Prod.mk (7 : Int)),
    apply_ite (List.cons (MEff.call "_check_keepalive" []))]

theorem runEffs_checkKeepalive (s : S) (l : List MEff) :
    runEffs s (.call "_check_keepalive" [] :: l) = runEffs s.checkKeepalive l := by
  simp only [runEffs, List.foldl, runEff]

/-- **`Client.loop_misc` as the source has it now = the model's `loopMisc`** (result code and effect on the client), for every
state whose timers are not ahead of the clock: MQTT_ERR_NO_CONN without a socket; MQTT_ERR_CONN_LOST when `_check_keepalive()`
closed the connection (the socket is no longer the one the call started with - F39); when a PINGREQ has been outstanding for
K: close, state by whether disconnect() had been called, one on_disconnect with success / MQTT_ERR_KEEPALIVE, result
MQTT_ERR_CONN_LOST; otherwise MQTT_ERR_SUCCESS -/
theorem fn_loopMisc (s : S) (hinv : TimerLemmas.TInv s) :
    ∃ rc effs, lmRun s = .ok (rc, effs) ∧ (runEffs s effs, rc) = s.loopMisc := by
  have hfr := TimerLemmas.checkKeepalive_frame s
  have hp1 : s.checkKeepalive.pingT ≤ s.now := hfr.now ▸ (hinv.ck hfr).2.2.1
  have hlow := (OutLemmas.checkKeepalive_low s).sock
  have eexp : ((s.checkKeepalive.pingT : Int) > 0 ∧
      (s.now : Int) - s.checkKeepalive.pingT ≥ ((s.checkKeepalive.cfg.keepalive * 1000 : Nat) : Int)) ↔
      TimerLemmas.pingExpired s.checkKeepalive := by
    rw [TimerLemmas.pingExpired, hfr.now]; omega
  unfold lmRun
  rw [loopMisc_run]
  simp only [eexp, csCode_disc]
  rcases TimerLemmas.loopMisc_cases s with ⟨h1, h2⟩ | ⟨h1, h2, h3⟩ | ⟨h1, h2, h3, h4⟩ | ⟨h1, h2, h3, h4⟩
  · rw [h2, h1, if_pos (show sockId none = 0 from rfl)]
    exact ⟨_, _, rfl, rfl⟩
  · obtain ⟨c, hc⟩ := Option.isSome_iff_exists.mp h1
    rw [h3, h2, hc, if_neg (sockId_ne c), if_pos (show sockId none ≠ sockId (some c) from (sockId_ne c).symm)]
    exact ⟨_, _, rfl, by rw [runEffs_checkKeepalive]; rfl⟩
  all_goals
    obtain ⟨c, hc⟩ := Option.isSome_iff_exists.mp h1
    have hsame : s.checkKeepalive.sock = s.sock := hlow.resolve_right fun h => by rw [h] at h2; cases h2
    rw [h4, hsame, hc, if_neg (sockId_ne c), if_neg (show ¬ sockId (some c) ≠ sockId (some c) from fun h => h rfl)]
  · rw [if_pos h3, ← run_kaClose]
    exact ⟨_, _, rfl, by rw [runEffs_checkKeepalive]; rfl⟩
  · rw [if_neg h3]
    exact ⟨_, _, rfl, by rw [runEffs_checkKeepalive]; rfl⟩

end Paho.FnEq
