/-
C03 — inbound QoS 2 delivered exactly once; acknowledgements follow the callback.
STATEMENTS TO PROVE. `s` ranges over ALL states (no reachability needed) unless stated.
-/
import PahoProofs.Lemmas.InSpec

namespace Paho

def isOnMessage : Ev → Bool
  | .onMessage _ => true
  | _ => false

def firstIdx (p : Ev → Bool) (l : List Ev) : Option Nat := l.findIdx? p

/-- bytes of PUBACK / PUBREC / PUBCOMP for a packet id, as the code encodes them -/
def ackBytes (cmd mid : Nat) : Bytes := [b8 cmd, 2, b8 (mid / 256), b8 (mid % 256)]

section helpers
open InLemmas

theorem not_onMessage_of_PB {B : Bytes → Prop} {k : Prop} {e : Ev} (hk : ¬k) (h : PB B k e) :
    (!isOnMessage e) = true := by
  cases e with
  | onMessage _ => exact (hk h).elim
  | _ => rfl

theorem all_not_onMessage {B : Bytes → Prop} {k : Prop} {evs : List Ev} (hk : ¬k) (h : ∀ e ∈ evs, PB B k e) :
    evs.all (fun e => !isOnMessage e) = true :=
  List.all_eq_true.mpr fun e he => not_onMessage_of_PB hk (h e he)

theorem filter_onMessage_nil {evs : List Ev} (h : evs.all (fun e => !isOnMessage e) = true) :
    evs.filter isOnMessage = [] :=
  List.filter_eq_nil_iff.mpr fun e he => by simpa using List.all_eq_true.mp h e he

theorem rx_step_shape {B : Bytes → Prop} (s : S) (p : S.RxPkt) (ok : Bool) {c : Nat} (hs : s.sock = some c)
    {hevs : List Ev} (hh : (s.packetHandle p ok).1.log = s.log ++ hevs) :
    ∃ tl, newEvents s (.rx (.pkt p) ok) = hevs ++ tl ∧ (∀ e ∈ tl, PB B False e)
      ∧ (s.step (.rx (.pkt p) ok)).inm = (s.packetHandle p ok).1.inm := by
  have hfr := step_rx_fr (B := B) (k := False) p ok hs
  obtain ⟨tl, htl, hP⟩ := hfr.lg
  exact ⟨tl, newEvents_eq (by rw [htl, hh, List.append_assoc]), hP, hfr.inm⟩

theorem lg_newEvents {P : Ev → Prop} {s : S} {op : Op} (h : Lg P s (s.step op)) : ∀ e ∈ newEvents s op, P e := by
  obtain ⟨evs, he, hP⟩ := h
  rw [newEvents_eq he]
  exact hP

def InmInv (l : List InMsg) : Prop := (l.map (·.mid)).Nodup ∧ ∀ m ∈ l, m.qos = 2

theorem InmInv.filter {l : List InMsg} (h : InmInv l) (p : InMsg → Bool) : InmInv (l.filter p) :=
  ⟨h.1.sublist (List.filter_sublist.map _), fun m hm => h.2 m (List.mem_filter.mp hm).1⟩

theorem nodup_store {l : List InMsg} (m : InMsg) (h : (l.map (·.mid)).Nodup) :
    ((storeIn l m).map (·.mid)).Nodup := by
  unfold storeIn
  split
  · have : (l.map (fun x => if x.mid = m.mid then m else x)).map (·.mid) = l.map (·.mid) := by
      rw [List.map_map]
      apply List.map_congr_left
      intro x _
      show (if x.mid = m.mid then m else x).mid = x.mid
      split
      · rename_i hx; exact hx.symm
      · rfl
    rw [this]; exact h
  · rename_i hany
    rw [List.map_append, List.nodup_append]
    refine ⟨h, by simp, fun a ha b hb hab => hany ?_⟩
    obtain ⟨x, hx, rfl⟩ := List.mem_map.mp ha
    exact List.any_eq_true.mpr ⟨x, hx, by simpa using hab.trans (List.mem_singleton.mp hb)⟩

theorem InmInv.store {l : List InMsg} (h : InmInv l) (m : InMsg) (hq : m.qos = 2) : InmInv (storeIn l m) := by
  refine ⟨nodup_store m h.1, fun x hx => ?_⟩
  unfold storeIn at hx
  split at hx
  · obtain ⟨y, hy, rfl⟩ := List.mem_map.mp hx
    split
    · exact hq
    · exact h.2 y hy
  · exact (List.mem_append.mp hx).elim (h.2 x) fun hx => List.mem_singleton.mp hx ▸ hq

theorem storeIn_any (l : List InMsg) (m : InMsg) : (storeIn l m).any (fun x => decide (x.mid = m.mid)) = true := by
  unfold storeIn
  split
  · rename_i hany
    rw [List.any_eq_true] at hany ⊢
    obtain ⟨x, hx, hxm⟩ := hany
    refine ⟨m, List.mem_map.mpr ⟨x, hx, if_pos ?_⟩, by simp⟩
    simpa using hxm
  · simp

theorem InLemmas.InmTo.nodup {l l' : List InMsg} (h : InmTo l l') (hn : (l.map (·.mid)).Nodup) : (l'.map (·.mid)).Nodup := by
  induction h with
  | refl => exact hn
  | filter p _ ih => exact ih.sublist (List.filter_sublist.map _)
  | store m _ _ ih => exact nodup_store m ih

theorem InLemmas.InmTo.inmInv {l l' : List InMsg} (h : InmTo l l') (hi : InmInv l) : InmInv l' := by
  induction h with
  | refl => exact hi
  | filter p _ ih => exact ih.filter p
  | store m hq _ ih => exact ih.store m hq

theorem step_fw_any (s : S) (op : Op) : Fw (PB (fun _ => True) (Delivers op)) (fun _ => True) s (s.step op) :=
  step_fw (good_true fun _ _ => trivial) (fun _ _ => trivial) op fun _ _ _ _ _ => trivial

theorem runFrom_inmInv (cfg : Cfg) (proto : Nat) (ops : List Op) : InmInv (runFrom cfg proto ops).inm :=
  S.run_ind (P := fun s => InmInv s.inm) (fun s op h => (step_fw_any s op).inm.inmInv h) ops
    ⟨List.nodup_nil, fun _ h => nomatch h⟩

end helpers

/-- every inbound QoS 2 PUBLISH (valid topic) on an open socket is answered with PUBREC (handed to the
connection) and is NOT delivered at that time -/
theorem c03_pubrec (s : S) (m : InMsg) (ok : Bool) (c : Nat) (hs : s.sock = some c) (hq : m.qos = 2)
    (hmid : m.mid ≤ 65535) (ht : s.proto = 5 ∨ m.topic ≠ []) :
    let evs := newEvents s (.rx (.pkt (.publish m)) ok)
    Ev.queued c (ackBytes 0x50 m.mid) ∈ evs ∧ evs.all (fun e => !isOnMessage e) = true
      ∧ (s.step (.rx (.pkt (.publish m)) ok)).inm.any (·.mid = m.mid) = true := by
  obtain ⟨hl, hi⟩ := InLemmas.handlePublish_qos2 (s := s) m hq ht
  obtain ⟨evs1, he1, hP1⟩ := InLemmas.sendCmdMid_first (s := s) 0x50 m.mid true hs hmid
  obtain ⟨tl, hev, hPtl, hinm2⟩ := rx_step_shape s (.publish m) ok hs (hl.trans he1)
  refine ⟨?_, ?_, ?_⟩
  · rw [hev]
    exact List.mem_append_left _ List.mem_cons_self
  · rw [hev]
    exact all_not_onMessage (B := fun _ => True) id
      (List.forall_mem_append.mpr ⟨List.forall_mem_cons.mpr ⟨trivial, hP1⟩, hPtl⟩)
  · rw [hinm2]
    exact hi ▸ storeIn_any s.inm m

/-- every PUBREL on an open socket is answered with PUBCOMP, known id or not, unless manual_ack is on or the
callback's exception propagates -/
theorem c03_pubcomp (s : S) (mid : Nat) (ok : Bool) (c : Nat) (hs : s.sock = some c) (hmid : mid ≤ 65535)
    (hman : s.cfg.manualAck = false) (hraise : s.raiseOnMessage = 0 ∨ s.cfg.suppress = true) :
    Ev.queued c (ackBytes 0x70 mid) ∈ newEvents s (.rx (.pkt (.pubrel mid)) ok) := by
  obtain ⟨rest, hev, _, _, hq⟩ := InLemmas.step_pubrel_spec (s := s) mid ok hs
  rw [hev]
  exact List.mem_append_right _ (hq hmid hman hraise)

/-- exactly once: PUBREL delivers the stored message exactly once iff its id is stored, and removes it -/
theorem c03_pubrel_once (s : S) (mid : Nat) (ok : Bool) (hs : s.sock.isSome) :
    let evs := newEvents s (.rx (.pkt (.pubrel mid)) ok)
    (evs.filter isOnMessage).length = (if s.inm.any (·.mid = mid) then 1 else 0)
      ∧ (s.step (.rx (.pkt (.pubrel mid)) ok)).inm.any (·.mid = mid) = false := by
  obtain ⟨c, hc⟩ := Option.isSome_iff_exists.mp hs
  obtain ⟨rest, hev, hP, hinm, _⟩ := InLemmas.step_pubrel_spec (s := s) mid ok hc
  refine ⟨?_, ?_⟩
  · rw [hev, List.filter_append, filter_onMessage_nil (all_not_onMessage id hP), ← List.isSome_find?]
    cases s.inm.find? (fun x => decide (x.mid = mid)) <;> rfl
  · rw [hinm, List.any_eq_false]
    intro x hx
    simpa using (List.mem_filter.mp hx).2

/-- the delivered message is the stored one -/
theorem c03_pubrel_delivers_stored (s : S) (mid : Nat) (ok : Bool) (m : InMsg) (hs : s.sock.isSome)
    (hm : s.inm.find? (·.mid = mid) = some m) :
    Ev.onMessage m ∈ newEvents s (.rx (.pkt (.pubrel mid)) ok) := by
  obtain ⟨c, hc⟩ := Option.isSome_iff_exists.mp hs
  obtain ⟨rest, hev, _⟩ := InLemmas.step_pubrel_spec (s := s) mid ok hc
  rw [hev, show s.inm.find? (fun x => decide (x.mid = mid)) = some m from hm]
  exact List.mem_append_left _ List.mem_cons_self

set_option linter.unusedVariables false in
/-- a repeated QoS 2 PUBLISH with the same id does not create a second stored entry (nor does any other step,
so `hs` and `hq` are not used) -/
theorem c03_dup_publish_no_second_entry (s : S) (m : InMsg) (ok : Bool) (hs : s.sock.isSome) (hq : m.qos = 2)
    (hnd : (s.inm.map (·.mid)).Nodup) :
    ((s.step (.rx (.pkt (.publish m)) ok)).inm.map (·.mid)).Nodup := by
  exact (step_fw_any s _).inm.nodup hnd

/-- stored inbound ids stay pairwise distinct in every reachable state -/
theorem c03_inm_nodup (cfg : Cfg) (proto : Nat) (ops : List Op) :
    ((runFrom cfg proto ops).inm.map (·.mid)).Nodup :=
  (runFrom_inmInv cfg proto ops).1

/-- on_message fires only in steps that deliver a PUBLISH (QoS 0/1) or a PUBREL -/
theorem c03_on_message_only_rx (s : S) (op : Op)
    (h : ∀ m ok, op ≠ .rx (.pkt (.publish m)) ok) (h' : ∀ mid ok, op ≠ .rx (.pkt (.pubrel mid)) ok) :
    (newEvents s op).all (fun e => !isOnMessage e) = true := by
  refine all_not_onMessage (fun hd => ?_) (lg_newEvents (step_fw_any s op).lg)
  rcases hd with ⟨m, ok, e⟩ | ⟨mid, ok, e⟩
  · exact h m ok e
  · exact h' mid ok e

/-- QoS 1: delivered exactly once per packet; PUBACK is handed to the connection after the callback, and
only if the callback's exception does not propagate and manual_ack is off -/
theorem c03_qos1 (s : S) (m : InMsg) (ok : Bool) (c : Nat) (hs : s.sock = some c) (hq : m.qos = 1)
    (hmid : m.mid ≤ 65535) (ht : s.proto = 5 ∨ m.topic ≠ []) :
    let evs := newEvents s (.rx (.pkt (.publish m)) ok)
    let raised := decide (s.raiseOnMessage > 0) && !s.cfg.suppress
    (evs.filter isOnMessage) = [Ev.onMessage m] ∧
    ((Ev.queued c (ackBytes 0x40 m.mid) ∈ evs) ↔ (s.cfg.manualAck = false ∧ raised = false)) ∧
    (∀ i j : Nat, evs[i]? = some (Ev.onMessage m) → evs[j]? = some (Ev.queued c (ackBytes 0x40 m.mid)) → i < j) := by
  have hspec := InLemmas.handlePublish_qos1 (s := s) m hq ht
  have hl1 : (s.handleOnMessage m).1.log = s.log ++ [.onMessage m] := by rw [InLemmas.handleOnMessage_eq]
  -- the events of the handler after `on_message`: the PUBACK and what `loop_write` does, or none
  have key : ∃ evs1, (s.handlePublish m).1.log = s.log ++ Ev.onMessage m :: evs1
      ∧ (∀ e ∈ evs1, InLemmas.NoMsg e)
      ∧ (Ev.queued c (ackBytes 0x40 m.mid) ∈ evs1 ↔
          (s.cfg.manualAck = false ∧ (decide (s.raiseOnMessage > 0) && !s.cfg.suppress) = false)) := by
    by_cases hr : (decide (s.raiseOnMessage > 0) && !s.cfg.suppress) = true
    · exact ⟨[], by rw [hspec, if_pos hr, hl1], List.forall_mem_nil _,
        iff_of_false List.not_mem_nil fun h => by rw [h.2] at hr; cases hr⟩
    by_cases hm : s.cfg.manualAck = true
    · exact ⟨[], by rw [hspec, if_neg hr, if_pos hm, hl1], List.forall_mem_nil _,
        iff_of_false List.not_mem_nil fun h => by rw [h.1] at hm; cases hm⟩
    have hs1 : (s.handleOnMessage m).1.sock = some c := by rw [InLemmas.handleOnMessage_eq]; exact hs
    obtain ⟨evs1, he1, hP1⟩ := InLemmas.sendCmdMid_first (s := (s.handleOnMessage m).1) 0x40 m.mid true hs1 hmid
    refine ⟨Ev.queued c (ackBytes 0x40 m.mid) :: evs1, ?_, List.forall_mem_cons.mpr ⟨trivial, hP1⟩,
      iff_of_true List.mem_cons_self ⟨by simpa using hm, by simpa using hr⟩⟩
    rw [hspec, if_neg hr, if_neg hm, he1, hl1, List.append_assoc]
    rfl
  obtain ⟨evs1, hh, hP1, hiff⟩ := key
  obtain ⟨tl, hev, hPtl, _⟩ := rx_step_shape (B := fun _ => False) s (.publish m) ok hs hh
  have hrest : (evs1 ++ tl).all (fun e => !isOnMessage e) = true := by
    rw [List.all_append, all_not_onMessage id hP1, all_not_onMessage id hPtl]
    rfl
  refine ⟨?_, ?_, ?_⟩
  · rw [hev, List.cons_append, List.filter_cons, filter_onMessage_nil hrest]
    rfl
  · rw [hev, List.cons_append, List.mem_cons, List.mem_append, ← hiff]
    exact ⟨fun h => h.elim (fun h => nomatch h) (fun h => h.elim id fun h => (hPtl _ h).elim), fun h => .inr (.inl h)⟩
  · intro i j hi hj
    rw [hev] at hi hj
    -- `on_message` is at index 0 and nowhere else, so the PUBACK comes later
    cases j with
    | zero => cases hj
    | succ j =>
      cases i with
      | zero => exact Nat.succ_pos j
      | succ i =>
        rw [List.cons_append, List.getElem?_cons_succ] at hi
        exact absurd (List.all_eq_true.mp hrest _ (List.mem_of_getElem? hi)) Bool.false_ne_true

/-- manual acknowledgement: with manual_ack on, no PUBACK/PUBCOMP is queued by any step other than ack() -/
-- STATEMENT CHANGED: hypothesis `hout` (every stored outgoing message has QoS ≤ 2, true in every reachable
-- state: `publish()` rejects other values) added. Without it the statement is false for arbitrary states: the
-- PUBLISH header byte is `0x30 ||| dup<<<3 ||| qos<<<1 ||| retain`, which for a stored message with qos = 32
-- is 0x70 (PUBCOMP's first byte). Counterexample (evaluated): `s` = a connected session (manual_ack on,
-- max_inflight 1, inflight 1) with `out = [⟨mid 1, qos 1, waitPuback⟩, ⟨mid 2, qos 32, queued⟩]`; the step
-- `.rx (.pkt (.puback 1)) true` runs `_update_inflight`, which sends message 2 and emits
-- `Ev.queued 1 [112, 5, 0, 1, 97, 0, 2]` (112 = 0x70).
theorem c03_manual (s : S) (op : Op) (hman : s.cfg.manualAck = true) (hop : ∀ m q, op ≠ .ack m q)
    (hout : ∀ m ∈ s.out, m.qos ≤ 2) :
    ∀ c b, Ev.queued c b ∈ newEvents s op → b.head? ≠ some 0x40 ∧ b.head? ≠ some 0x70 := by
  intro c b hmem
  exact lg_newEvents (InLemmas.step_fw InLemmas.good_notAck hout op fun hb => hb.elim
    (fun hm => by rw [hman] at hm; cases hm) (fun ⟨m, q, e⟩ => absurd e (hop m q))).lg _ hmem

/-- `hout` is an invariant of the model, so in every reachable state the property holds as originally stated -/
theorem c03_manual_reachable (cfg : Cfg) (proto : Nat) (ops : List Op) (op : Op)
    (hman : (runFrom cfg proto ops).cfg.manualAck = true) (hop : ∀ m q, op ≠ .ack m q) :
    ∀ c b, Ev.queued c b ∈ newEvents (runFrom cfg proto ops) op → b.head? ≠ some 0x40 ∧ b.head? ≠ some 0x70 :=
  c03_manual _ op hman hop (InLemmas.runFrom_qosOk cfg proto ops)

/-- session reset: a clean session forgets half-received QoS 2 messages on reconnect, a persistent one keeps them -/
theorem c03_reset_clean (s : S) (hc : s.checkCleanSession = true) : s.messagesReconnectResetIn.inm = [] := by
  unfold S.messagesReconnectResetIn
  rw [if_pos hc]

theorem c03_reset_persistent (s : S) (hc : s.checkCleanSession = false) (hq : ∀ m ∈ s.inm, m.qos = 2) :
    s.messagesReconnectResetIn.inm = s.inm := by
  unfold S.messagesReconnectResetIn
  rw [if_neg (by rw [hc]; decide)]
  show s.inm.filter (fun x => decide (x.qos = 2)) = s.inm
  refine List.filter_eq_self.mpr ?_
  intro m hm
  simpa using hq m hm

/-- only QoS 2 messages are ever stored -/
theorem c03_inm_qos2 (cfg : Cfg) (proto : Nat) (ops : List Op) : ∀ m ∈ (runFrom cfg proto ops).inm, m.qos = 2 :=
  (runFrom_inmInv cfg proto ops).2

/-! ### non-vacuity: the hypotheses are met by reachable states (external event loop, so that the
evaluation never enters the socket write path) -/

section nonvacuity

private def m7 : InMsg := { mid := 7, qos := 2, dup := false, retain := false, topic := [97], payload := [1, 2] }

private def sStored : S :=
  runFrom { ext := true } 4 [.connect true, .rx (.pkt (.connack false 0)) true, .rx (.pkt (.publish m7)) true]

example : sStored.sock = some 1 ∧ sStored.inm = [m7] := by decide

example : Ev.onMessage m7 ∈ newEvents sStored (.rx (.pkt (.pubrel 7)) true) :=
  c03_pubrel_delivers_stored sStored 7 true m7 (by decide) (by decide)

example : Ev.queued 1 (ackBytes 0x70 7) ∈ newEvents sStored (.rx (.pkt (.pubrel 7)) true) :=
  c03_pubcomp sStored 7 true 1 (by decide) (by decide) (by decide) (by decide)

example : ∀ c b, Ev.queued c b ∈ newEvents
      (runFrom { ext := true, manualAck := true } 4 [.connect true, .rx (.pkt (.connack false 0)) true])
      (.rx (.pkt (.pubrel 7)) true) → b.head? ≠ some 0x40 ∧ b.head? ≠ some 0x70 :=
  c03_manual _ _ (by decide) (fun _ _ h => nomatch h) (by decide)

end nonvacuity

end Paho
