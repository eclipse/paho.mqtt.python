/-
C05 — inbound decoding is faithful and independent of transport fragmentation (raw sockets).
`c05_frag_independent` holds in full (no side condition on the stream): since the F29 fix the reader
rejects a zero command byte with a protocol error at once (`c05_zero_cmd_protocol`), so the state value
`command = 0` unambiguously means "no command byte read yet". Definitions the statements of part 1 use (`dataOf`,
`terminalOf`, `noEmptyChunks`, `drain`, `drainFuel`, `splitStream`, `cmdsNonzero`): PahoProofs/Lemmas/ReaderDefs.lean.
Model: Paho/Model/Reader.lean (`recvN`, `readBody`, `readRemLen`, `packetRead`, `parseBody`,
`parseAck`), property codec Paho/Model/Props.lean, reason codes `Reason.*`, spec tables Paho/Spec/Props.lean.
-/
import PahoProofs.Lemmas.ReaderParse
import PahoProofs.Lemmas.WsReaderGen
import PahoProofs.Lemmas.ReaderFrames
import PahoProofs.Lemmas.ReaderWhole

namespace Paho
open ReaderLemmas ReaderGen PropsLemmas

/-! ## Part 1 — fragmentation independence of the reader -/

def toDrainEnd : PumpEnd → DrainEnd
  | .idle => .idle
  | .connLost => .connLost
  | .protocol => .protocol

/-- the reader and the pump of C05 are the generic ones of Paho.Model.ReaderWs over the plain socket `recvN` -/
theorem packetRead_eq_packetReadOn (r : RState) (q : List RecvItem) : packetRead r q = packetReadOn recvN r q :=
  (packetReadOn_recvN r q).symm

theorem drain_eq_drainOn : ∀ (fuel : Nat) (r : RState) (q : List RecvItem) (acc : List (Nat × Bytes)),
    drain fuel r q acc =
      ((drainOn recvN List.isEmpty fuel r q acc).1, (drainOn recvN List.isEmpty fuel r q acc).2.1,
        toDrainEnd (drainOn recvN List.isEmpty fuel r q acc).2.2.2) := by
  intro fuel
  induction fuel with
  | zero => intro r q acc; rfl
  | succ fuel ih =>
    intro r q acc
    rw [drain, drainOn, packetReadOn_recvN]
    by_cases h : q.isEmpty = true ∧ ¬ (r.haveRemaining = true ∧ r.toProcess = 0)
    · rw [if_pos h, if_pos h]; rfl
    · rw [if_neg h, if_neg h]
      rcases packetRead r q with ⟨r', q', out⟩
      cases out with
      | again =>
        simp only
        by_cases hq : q'.isEmpty = true
        · rw [if_pos hq, if_pos hq]; rfl
        · rw [if_neg hq, if_neg hq]; exact ih r' q' acc
      | againBusy => exact ih r' q' acc
      | connLost | protocol => rfl
      | complete c b => exact ih {} q' _

/-- `drain` from the initial state computes what the byte-at-a-time reference automaton (`ReaderLemmas.feed`) computes
from the byte stream and the terminal event alone — whatever the chunking, and with no condition on the stream -/
theorem drain_feed (q : List RecvItem) (h : noEmptyChunks q = true) :
    (drain (drainFuel q) {} q []).1 = (feed {} (dataOf q) []).1 ∧
    (drain (drainFuel q) {} q []).2.2 = toDrainEnd (endOfP (terminalOf q) (feed {} (dataOf q) []).2) := by
  have hd := drainOn_init recvSpec (terminalOf q) (fuel := drainFuel q) ⟨⟨h, rfl⟩, rfl, rfl⟩ (Nat.le_add_right _ 7)
  rw [drain_eq_drainOn]
  exact ⟨hd.1, congrArg toDrainEnd hd.2.1⟩

-- History: under the model before the F29 fix this statement needed the extra hypothesis
-- `cmdsNonzero ((dataOf q1).length + 1) (dataOf q1) = true`: the code used `_in_packet['command'] == 0` for
-- "no command byte read yet" and stored a zero first byte as the command, so
--   q1 = [.data [0], .eagain, .data [2, 0x10, 0]]     q2 = [.data [0, 2, 0x10, 0]]
-- (same bytes, same terminal event) were read differently. The reader now rejects a zero command byte in
-- phase 1 (MQTT_ERR_PROTOCOL; packet type 0 is reserved), the hypothesis is gone, and both queues above end with
-- `.protocol` and no packet (checked below by `decide`; general statement: `c05_zero_cmd_protocol`).
/-- Fragmentation independence: whatever the chunking and wherever would-block occurs, the
sequence of packets handed to the handlers — and whether/how the stream ends in an error — depends only on
the bytes delivered: two queues with the same data and the same terminal event give the same result. -/
theorem c05_frag_independent (q1 q2 : List RecvItem)
    (h1 : noEmptyChunks q1 = true) (h2 : noEmptyChunks q2 = true)
    (hd : dataOf q1 = dataOf q2) (ht : terminalOf q1 = terminalOf q2) :
    (drain (drainFuel q1) {} q1 []).1 = (drain (drainFuel q2) {} q2 []).1 ∧
    (drain (drainFuel q1) {} q1 []).2.2 = (drain (drainFuel q2) {} q2 []).2.2 := by
  have a := drain_feed q1 h1
  have b := drain_feed q2 h2
  rw [a.1, a.2, b.1, b.2, hd, ht]
  exact ⟨rfl, rfl⟩

/-- a stream that starts with a zero command byte is a protocol error and hands over nothing, under every
fragmentation (whatever follows the zero byte, wherever the chunks are cut and would-block falls, and whether
or not the transport ends with EOF / an error) -/
theorem c05_zero_cmd_protocol (q : List RecvItem) (h : noEmptyChunks q = true) (rest : Bytes)
    (hd : dataOf q = 0 :: rest) :
    (drain (drainFuel q) {} q []).1 = [] ∧ (drain (drainFuel q) {} q []).2.2 = .protocol := by
  have a := drain_feed q h
  rwa [hd, feed_cmd (r := {}) rfl, if_pos (show (0 : UInt8).toNat = 0 from rfl)] at a

/-- the two queues that the old model read differently (zero command byte, would-block right after it or not):
both are a protocol error now -/
example :
    let q1 : List RecvItem := [.data [0], .eagain, .data [2, 0x10, 0]]
    let q2 : List RecvItem := [.data [0, 2, 0x10, 0]]
    noEmptyChunks q1 = true ∧ noEmptyChunks q2 = true ∧ dataOf q1 = dataOf q2 ∧ terminalOf q1 = terminalOf q2 ∧
    ((drain (drainFuel q1) {} q1 []).1, (drain (drainFuel q1) {} q1 []).2.2) = ([], .protocol) ∧
    ((drain (drainFuel q2) {} q2 []).1, (drain (drainFuel q2) {} q2 []).2.2) = ([], .protocol) := by
  decide +kernel

/-- a zero command byte after a complete packet: the packet is handed over, then the protocol error, wherever
the chunks are cut -/
example :
    let qa : List RecvItem := [.data [0xD0, 0, 0, 0x40, 2, 0, 1]]
    let qb : List RecvItem := [.data [0xD0], .eagain, .data [0, 0], .eagain, .data [0x40, 2, 0, 1], .eof]
    ((drain (drainFuel qa) {} qa []).1, (drain (drainFuel qa) {} qa []).2.2) = ([(0xD0, [])], .protocol) ∧
    ((drain (drainFuel qb) {} qb []).1, (drain (drainFuel qb) {} qb []).2.2) = ([(0xD0, [])], .protocol) := by
  decide +kernel

/-- … and that result is the reference split of the byte stream, whenever no packet starts with a zero byte
(stronger form of `c05_drain_spec` below) -/
theorem c05_drain_spec_strong (q : List RecvItem) (h : noEmptyChunks q = true)
    (hz : cmdsNonzero ((dataOf q).length + 1) (dataOf q) = true) :
    (drain (drainFuel q) {} q []).1 = (splitStream ((dataOf q).length + 1) (dataOf q)).1 := by
  rw [(drain_feed q h).1, feed_frames _ _ [] (Nat.lt_succ_self _) hz]
  rfl

set_option linter.unusedVariables false in
/-- … and that result is the reference split of the byte stream (streams with a zero byte excluded: the
reference split `splitStream` carries on past a packet with a zero command byte, the reader stops there with a
protocol error) -/
theorem c05_drain_spec (q : List RecvItem) (h : noEmptyChunks q = true)
    (hz : ∀ p ∈ (splitStream ((dataOf q).length + 1) (dataOf q)).1, p.1 ≠ 0) (hz' : ∀ b ∈ dataOf q, True) :
    (drain (drainFuel q) {} q []).1 = (splitStream ((dataOf q).length + 1) (dataOf q)).1 ∨
    (∃ b ∈ dataOf q, b = 0) := by
  by_cases hex : ∃ b ∈ dataOf q, b = 0
  · exact Or.inr hex
  · exact Or.inl (c05_drain_spec_strong q h (cmdsNonzero_of_no_zero _ _ (fun b hb h0 => hex ⟨b, hb, h0⟩)))

set_option linter.unusedVariables false in
/-- one whole packet delivered in one chunk is handed over complete, by the first call -/
theorem c05_whole_packet (cmd : UInt8) (body tl : Bytes) (hc : cmd ≠ 0) (hl : body.length ≤ 268435455) :
    ∃ r q, packetRead {} [.data ([cmd] ++ Spec.vbi body.length ++ body)] = (r, q, .complete cmd.toNat body) := by
  obtain ⟨r, hr⟩ := packetRead_whole cmd body [] hc hl
  refine ⟨r, [], ?_⟩
  rw [← hr]
  simp

/-- non-vacuity: concrete streams, fragmented in different ways -/
example :
    drain 100 {} [.data [0x40, 2], .eagain, .data [0, 1]] [] = ([(0x40, [0, 1])], {}, .idle) := by decide +kernel

/-- three fragmentations of PUBACK(mid 1) · PINGRESP · PUBACK(mid 2) followed by EOF -/
example :
    let qa : List RecvItem := [.data [0x40, 2, 0, 1, 0xD0, 0, 0x40, 2, 0, 2], .eof]
    let qb : List RecvItem := [.data [0x40], .eagain, .data [2, 0], .data [1, 0xD0], .eagain, .eagain,
                               .data [0, 0x40, 2], .data [0], .eagain, .data [2], .err]
    let qc : List RecvItem := [.eagain, .data [0x40, 2, 0, 1, 0xD0], .data [0, 0x40, 2, 0, 2], .eagain, .eof, .data [7]]
    let res : List (Nat × Bytes) × DrainEnd := ([(0x40, [0, 1]), (0xD0, []), (0x40, [0, 2])], .connLost)
    ((drain (drainFuel qa) {} qa []).1, (drain (drainFuel qa) {} qa []).2.2) = res ∧
    ((drain (drainFuel qb) {} qb []).1, (drain (drainFuel qb) {} qb []).2.2) = res ∧
    ((drain (drainFuel qc) {} qc []).1, (drain (drainFuel qc) {} qc []).2.2) = res ∧
    cmdsNonzero ((dataOf qa).length + 1) (dataOf qa) = true ∧
    splitStream ((dataOf qa).length + 1) (dataOf qa) = (res.1, false) := by
  decide +kernel

/-- a fifth remaining-length byte is a protocol error, wherever the chunks are cut -/
example :
    (drain 100 {} [.data [0xC0, 0x80, 0x80], .eagain, .data [0x80, 0x80, 1]] []).2.2 = .protocol ∧
    (drain 100 {} [.data [0xC0, 0x80, 0x80, 0x80, 0x80, 1]] []).2.2 = .protocol := by decide +kernel

/-! ## Part 2 — decoding: what `parseBody` extracts equals what the broker encoded -/

def be16 (n : Nat) : Bytes := [UInt8.ofNat (n / 256), UInt8.ofNat (n % 256)]

/-- the four acknowledgement types share one handler -/
theorem parseBody_ack (proto pt flags : Nat) (body : Bytes) (hpt : pt = 4 ∨ pt = 5 ∨ pt = 6 ∨ pt = 7)
    (hf : flags < 16) : parseBody proto (pt * 16 + flags) body = parseAck proto pt body := by
  have hb := type_bits' pt flags (by omega) hf
  unfold parseBody
  rcases hpt with rfl | rfl | rfl | rfl <;> simp [hb]

/-- PUBACK/PUBREC/PUBREL/PUBCOMP, MQTT 3.x and the short MQTT 5 form -/
theorem c05_ack_short (proto pt mid : Nat) (flags : Nat) (hpt : pt = 4 ∨ pt = 5 ∨ pt = 6 ∨ pt = 7)
    (hf : flags < 16) (hmid : mid ≤ 65535) :
    parseBody proto (pt * 16 + flags) (be16 mid) = .ok (.ack pt mid 0 none) := by
  rw [parseBody_ack proto pt flags _ hpt hf, parseAck, be16, rdU16_be mid hmid]
  by_cases hp : proto = 5 <;> simp [hp]

/-- MQTT 5 with a reason code (no properties) -/
theorem c05_ack_rc (pt mid rc flags : Nat) (hpt : pt = 4 ∨ pt = 5 ∨ pt = 6 ∨ pt = 7) (hf : flags < 16)
    (hmid : mid ≤ 65535) (hrc : rc < 256) (hdef : Spec.reasonDefined pt rc = true) :
    parseBody 5 (pt * 16 + flags) (be16 mid ++ [UInt8.ofNat rc]) = .ok (.ack pt mid rc none) := by
  rw [parseBody_ack 5 pt flags _ hpt hf, parseAck]
  simp [be16, rdU16_be mid hmid, reasonUnpack_ok pt [] hrc hdef]

/-- MQTT 5 with reason code and properties -/
theorem c05_ack_props (pt mid rc flags : Nat) (block : Bytes) (p : Props)
    (hpt : pt = 4 ∨ pt = 5 ∨ pt = 6 ∨ pt = 7) (hf : flags < 16) (hmid : mid ≤ 65535) (hrc : rc < 256)
    (hdef : Spec.reasonDefined pt rc = true) (hne : block ≠ [])
    (hp : Props.unpack pt block = .ok (p, block.length)) :
    parseBody 5 (pt * 16 + flags) (be16 mid ++ [UInt8.ofNat rc] ++ block) = .ok (.ack pt mid rc (some p)) := by
  have hl : 0 < block.length := List.length_pos_iff.mpr hne
  rw [parseBody_ack 5 pt flags _ hpt hf, parseAck]
  simp [be16, rdU16_be mid hmid, reasonUnpack_ok pt block hrc hdef, hp, hl]

/-- CONNACK, MQTT 3.x -/
theorem c05_connack_v3 (proto : Nat) (hp : proto ≠ 5) (flags : Nat) (hf : flags < 16) (sp : Bool) (rc : Nat) (hrc : rc < 256) :
    parseBody proto (0x20 + flags) [if sp then 1 else 0, UInt8.ofNat rc] = .ok (.connack sp rc rc none) := by
  unfold parseBody
  cases sp <;> simp [type_bits' 2 flags (by decide) hf, hp, ofNat_toNat rc hrc]

/-- CONNACK, MQTT 5 (any reason code the specification defines for CONNACK except the legacy value 1) -/
theorem c05_connack_v5 (flags : Nat) (hf : flags < 16) (sp : Bool) (rc : Nat) (block : Bytes) (p : Props)
    (hrc : rc < 256) (h1 : rc ≠ 1) (hdef : Spec.reasonDefined 2 rc = true)
    (hp : Props.unpack 2 block = .ok (p, block.length)) :
    parseBody 5 (0x20 + flags) ([if sp then 1 else 0, UInt8.ofNat rc] ++ block) = .ok (.connack sp rc rc (some p)) := by
  unfold parseBody
  cases sp <;> simp [type_bits' 2 flags (by decide) hf, ofNat_toNat rc hrc, h1, mkById_ok hdef, hp]

/-- what `_handle_publish` reads off the first byte of a PUBLISH (a bounded format: checked case by case) -/
theorem publish_bits : ∀ (dup retain : Bool) (qos : Nat), qos ≤ 2 →
    let cmd := 0x30 + (if dup then 8 else 0) + qos * 2 + (if retain then 1 else 0)
    cmd &&& 0xF0 = 0x30 ∧ (cmd &&& 0x06) >>> 1 = qos ∧ ((cmd &&& 0x08) >>> 3 ≠ 0 ↔ dup = true) ∧
      (cmd &&& 0x01 ≠ 0 ↔ retain = true) := by
  decide

/-- PUBLISH in either protocol version: `block` is the property block of MQTT 5, and empty before -/
theorem parseBody_publish (proto : Nat) (dup retain : Bool) (qos mid : Nat) (topic block payload : Bytes)
    (props : Option Props) (hq : qos ≤ 2) (htl : topic.length ≤ 65535) (hmid : mid ≤ 65535)
    (hv : if proto = 5 then ∃ p, props = some p ∧ Props.unpack 3 (block ++ payload) = .ok (p, block.length)
          else props = none ∧ block = [] ∧ topic ≠ []) :
    parseBody proto (0x30 + (if dup then 8 else 0) + qos * 2 + (if retain then 1 else 0))
        (be16 topic.length ++ topic ++ (if qos > 0 then be16 mid else []) ++ block ++ payload) =
      .ok (.publish dup qos retain topic (if qos > 0 then mid else 0) props payload) := by
  obtain ⟨h1, h2, h3, h4⟩ := publish_bits dup retain qos hq
  have hq3 : qos ≠ 3 := Nat.ne_of_lt (Nat.lt_succ_of_le hq)
  unfold parseBody
  -- up to the topic: the same in all four cases below
  simp only [h1, h2, h3, h4, ↓reduceIte, Nat.reduceEqDiff, be16, List.cons_append, List.nil_append, List.append_assoc,
    rdU16_be _ htl, List.drop_succ_cons, List.drop_zero, List.take_left', List.drop_left', List.length_append]
  by_cases h5 : proto = 5
  · rw [if_pos h5] at hv
    obtain ⟨p, rfl, hp⟩ := hv
    by_cases h0 : qos > 0 <;> simp [h0, h5, hq3, rdU16_be mid hmid, hp]
  · rw [if_neg h5] at hv
    obtain ⟨rfl, rfl, ht⟩ := hv
    by_cases h0 : qos > 0 <;> simp [h0, h5, hq3, rdU16_be mid hmid, ht]

/-- PUBLISH, MQTT 3.x: dup, QoS, retain, topic, packet id and payload -/
theorem c05_publish_v3 (proto : Nat) (hp : proto ≠ 5) (dup retain : Bool) (qos mid : Nat) (topic payload : Bytes)
    (hq : qos ≤ 2) (ht : topic ≠ []) (htl : topic.length ≤ 65535) (hmid : mid ≤ 65535) :
    parseBody proto (0x30 + (if dup then 8 else 0) + qos * 2 + (if retain then 1 else 0))
        (be16 topic.length ++ topic ++ (if qos > 0 then be16 mid else []) ++ payload) =
      .ok (.publish dup qos retain topic (if qos > 0 then mid else 0) none payload) := by
  have h := parseBody_publish proto dup retain qos mid topic [] payload none hq htl hmid
    (by rw [if_neg hp]; exact ⟨rfl, rfl, ht⟩)
  rwa [List.append_nil] at h

/-- PUBLISH, MQTT 5 (properties between packet id and payload; empty topic allowed) -/
theorem c05_publish_v5 (dup retain : Bool) (qos mid : Nat) (topic payload block : Bytes) (p : Props)
    (hq : qos ≤ 2) (htl : topic.length ≤ 65535) (hmid : mid ≤ 65535)
    (hp : Props.unpack 3 (block ++ payload) = .ok (p, block.length)) :
    parseBody 5 (0x30 + (if dup then 8 else 0) + qos * 2 + (if retain then 1 else 0))
        (be16 topic.length ++ topic ++ (if qos > 0 then be16 mid else []) ++ block ++ payload) =
      .ok (.publish dup qos retain topic (if qos > 0 then mid else 0) (some p) payload) :=
  parseBody_publish 5 dup retain qos mid topic block payload (some p) hq htl hmid ⟨p, rfl, hp⟩

/-- SUBACK (MQTT 3.x): packet id and the granted QoS list, when every code is one the specification defines -/
theorem c05_suback_v3 (proto : Nat) (hp : proto ≠ 5) (flags mid : Nat) (hf : flags < 16) (hmid : mid ≤ 65535) (codes : List Nat)
    (hc : ∀ c ∈ codes, c < 256 ∧ Spec.reasonDefined 9 c = true) :
    parseBody proto (0x90 + flags) (be16 mid ++ codes.map UInt8.ofNat) = .ok (.suback mid codes none) := by
  unfold parseBody
  simp [type_bits' 9 flags (by decide) hf, be16, rdU16_be mid hmid, hp, reasonList_ok 9 codes hc]

theorem c05_suback_v5 (flags mid : Nat) (hf : flags < 16) (hmid : mid ≤ 65535) (codes : List Nat) (block : Bytes) (p : Props)
    (hc : ∀ c ∈ codes, c < 256 ∧ Spec.reasonDefined 9 c = true)
    (hp : Props.unpack 9 (block ++ codes.map UInt8.ofNat) = .ok (p, block.length)) :
    parseBody 5 (0x90 + flags) (be16 mid ++ block ++ codes.map UInt8.ofNat) = .ok (.suback mid codes (some p)) := by
  unfold parseBody
  simp [type_bits' 9 flags (by decide) hf, be16, rdU16_be mid hmid, hp, reasonList_ok 9 codes hc]

theorem c05_unsuback_v3 (proto : Nat) (hp : proto ≠ 5) (flags mid : Nat) (hf : flags < 16) (hmid : mid ≤ 65535) :
    parseBody proto (0xB0 + flags) (be16 mid) = .ok (.unsuback mid [] none) := by
  unfold parseBody
  simp [type_bits' 11 flags (by decide) hf, be16, rdU16_be mid hmid, hp]

theorem c05_unsuback_v5 (flags mid : Nat) (hf : flags < 16) (hmid : mid ≤ 65535) (codes : List Nat) (block : Bytes) (p : Props)
    (hc : ∀ c ∈ codes, c < 256 ∧ Spec.reasonDefined 11 c = true) (hlen : block.length + codes.length ≥ 2)
    (hp : Props.unpack 11 (block ++ codes.map UInt8.ofNat) = .ok (p, block.length)) :
    parseBody 5 (0xB0 + flags) (be16 mid ++ block ++ codes.map UInt8.ofNat) = .ok (.unsuback mid codes (some p)) := by
  have hlen' : ¬ (block.length + codes.length + 2 < 4) := by omega
  unfold parseBody
  simp [type_bits' 11 flags (by decide) hf, be16, rdU16_be mid hmid, hp, reasonList_ok 11 codes hc, hlen']

/-- server DISCONNECT (MQTT 5) in its three encodings -/
theorem c05_disconnect_bare (flags : Nat) (hf : flags < 16) : parseBody 5 (0xE0 + flags) [] = .ok (.disconnect none none) := by
  unfold parseBody
  simp [type_bits' 14 flags (by decide) hf]

theorem c05_disconnect_rc (flags rc : Nat) (hf : flags < 16) (hrc : rc < 256) (hdef : Spec.reasonDefined 14 rc = true) :
    parseBody 5 (0xE0 + flags) [UInt8.ofNat rc] = .ok (.disconnect (some rc) none) := by
  unfold parseBody
  simp [type_bits' 14 flags (by decide) hf, reasonUnpack_ok 14 [] hrc hdef]

theorem c05_disconnect_props (flags rc : Nat) (block : Bytes) (p : Props) (hf : flags < 16) (hrc : rc < 256)
    (hdef : Spec.reasonDefined 14 rc = true) (hne : block ≠ []) (hp : Props.unpack 14 block = .ok (p, block.length)) :
    parseBody 5 (0xE0 + flags) ([UInt8.ofNat rc] ++ block) = .ok (.disconnect (some rc) (some p)) := by
  have hl : 0 < block.length := List.length_pos_iff.mpr hne
  unfold parseBody
  simp [type_bits' 14 flags (by decide) hf, reasonUnpack_ok 14 block hrc hdef, hp, hl]

theorem c05_ping (proto flags : Nat) (hf : flags < 16) :
    parseBody proto (0xD0 + flags) [] = .ok .pingresp ∧ parseBody proto (0xC0 + flags) [] = .ok .pingreq := by
  unfold parseBody
  simp [type_bits' 13 flags (by decide) hf, type_bits' 12 flags (by decide) hf]

/-- anything else is a protocol error, never a callback: unknown packet types, and DISCONNECT on MQTT 3.x -/
theorem c05_unknown_type (proto cmd : Nat) (body : Bytes) (hc : cmd < 256)
    (h : cmd / 16 = 0 ∨ cmd / 16 = 1 ∨ cmd / 16 = 8 ∨ cmd / 16 = 10 ∨ cmd / 16 = 15 ∨ (cmd / 16 = 14 ∧ proto ≠ 5)) :
    parseBody proto cmd body = .rc 2 := by
  have hb := and_f0 cmd hc
  unfold parseBody
  rcases h with h | h | h | h | h | ⟨h, hp⟩ <;> simp [*]

/-! ### non-vacuity: concrete packets -/

deriving instance DecidableEq for Parsed, ParseRes

example : parseBody 4 0x40 [0, 1] = .ok (.ack 4 1 0 none) := by decide +kernel
/-- PUBREL, MQTT 5, reason 0x92 (packet identifier not found) and a reason-string property "hi" -/
example : parseBody 5 0x62 [0, 9, 0x92, 5, 0x1F, 0, 2, 0x68, 0x69] =
    .ok (.ack 6 9 146 (some { ptype := 6, attrs := [(31, [.bin [104, 105]])] })) := by decide +kernel
/-- PUBLISH dup, QoS 1, retain, topic "A", packet id 7, no properties, payload [1, 2] -/
example : parseBody 5 0x3b [0, 1, 65, 0, 7, 0, 1, 2] =
    .ok (.publish true 1 true [65] 7 (some { ptype := 3, attrs := [] }) [1, 2]) := by decide +kernel
example : parseBody 4 0x3b [0, 1, 65, 0, 7, 1, 2] = .ok (.publish true 1 true [65] 7 none [1, 2]) := by decide +kernel
example : parseBody 4 0x90 [0, 7, 0, 1, 128] = .ok (.suback 7 [0, 1, 128] none) := by decide +kernel
example : parseBody 5 0x20 [1, 0, 0] = .ok (.connack true 0 0 (some { ptype := 2, attrs := [] })) := by decide +kernel
example : parseBody 5 0xE0 [0x8B] = .ok (.disconnect (some 0x8B) none) := by decide +kernel
example : parseBody 4 0xE0 [] = .rc 2 := by decide +kernel

end Paho
