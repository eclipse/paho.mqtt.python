/-
C15 — per-topic callbacks: exactly the matching handlers run, else on_message.
Corollaries of the trie theorems (C11) for `Paho.Dispatch` (model of `_handle_on_message`,
`message_callback_add`, `message_callback_remove`).
-/
import Paho.Model.Dispatch
import PahoProofs.Properties.C11

namespace Paho
open Node

/-- a topic that is not valid UTF-8 is delivered to on_message only -/
theorem c15_invalid_utf8 (d : Dispatch) (topic : Bytes) (h : utf8Valid topic = false) :
    d.invoked topic = d.onMessage.toList := by
  simp [Dispatch.invoked, h]

/-- valid UTF-8: the per-topic callbacks found by the trie, or on_message if there is none -/
theorem c15_valid (d : Dispatch) (topic : Bytes) (h : utf8Valid topic = true) :
    d.invoked topic =
      (if (d.filtered.iterMatch topic).isEmpty then d.onMessage.toList else d.filtered.iterMatch topic) := by
  simp [Dispatch.invoked, h]

/-- the registrations the specification says match `topic` -/
def Dispatch.matching (d : Dispatch) (topic : Bytes) : List Nat :=
  ((toList d.filtered).filter
    (fun kv => Spec.matchesL (Spec.isDollarTopic topic) kv.1 (splitTopic topic))).map (·.2)

/-- MAIN: with valid registered filters and a wildcard-free UTF-8 topic, the callbacks invoked are exactly (a
permutation of = each once) the registered ones whose filter matches per the MQTT specification; on_message is used
iff none matches. -/
theorem c15_exact (d : Dispatch) (topic : Bytes) (hu : utf8Valid topic = true)
    (hwf : WFN d.filtered) (hvalid : ∀ kv ∈ toList d.filtered, Spec.validLevels kv.1 = true)
    (htopic : NoWildLevel (splitTopic topic)) :
    (d.matching topic ≠ [] → (d.invoked topic).Perm (d.matching topic)) ∧
    (d.matching topic = [] → d.invoked topic = d.onMessage.toList) := by
  have hp : (d.filtered.iterMatch topic).Perm (d.matching topic) := c11_iter d.filtered topic hwf hvalid htopic
  rw [c15_valid d topic hu, hp.isEmpty_eq]
  constructor
  · intro hne
    rw [if_neg (mt List.isEmpty_iff.1 hne)]
    exact hp
  · intro he
    rw [he]
    exact if_pos rfl

/-- registering: afterwards `sub` maps to the new callback and every other filter is untouched -/
theorem c15_add (d : Dispatch) (hwf : WFN d.filtered) (sub : Bytes) (cb : Nat) (k : List Level) :
    get k (d.add sub cb).filtered = if k = splitTopic sub then some cb else get k d.filtered :=
  c11_get_insert d.filtered hwf (splitTopic sub) k cb

theorem c15_add_wf (d : Dispatch) (hwf : WFN d.filtered) (sub : Bytes) (cb : Nat) :
    WFN (d.add sub cb).filtered :=
  c11_insert_wf d.filtered hwf (splitTopic sub) cb

/-- removing: afterwards `sub` is not registered and every other filter is untouched; removing an unregistered
filter changes nothing that lookups can see -/
theorem c15_remove (d : Dispatch) (hwf : WFN d.filtered) (sub : Bytes) (k : List Level) :
    get k (d.remove sub).filtered = if k = splitTopic sub then none else get k d.filtered := by
  unfold Dispatch.remove
  cases hd : delete (splitTopic sub) d.filtered with
  | some t' =>
    simp only
    exact c11_get_delete d.filtered t' hwf (splitTopic sub) k (splitTopic_ne_nil sub) hd
  | none =>
    simp only
    split
    · -- the path is not even present, so nothing is stored under it
      subst ‹k = _›
      refine Option.eq_none_iff_forall_ne_some.2 fun v hg => ?_
      obtain ⟨t', ht'⟩ := c11_delete_stored d.filtered (splitTopic sub) v hg
      cases hd.symm.trans ht'
    · rfl

theorem c15_remove_wf (d : Dispatch) (hwf : WFN d.filtered) (sub : Bytes) :
    WFN (d.remove sub).filtered := by
  unfold Dispatch.remove
  cases hd : delete (splitTopic sub) d.filtered with
  | some t' => exact c11_delete_wf d.filtered t' hwf (splitTopic sub) hd
  | none => exact hwf

/-- the initial registration state is well-formed, so every state reached by add/remove is -/
theorem c15_init_wf : WFN ({} : Dispatch).filtered :=
  WFN_empty

end Paho
