/-
C04 ∘ C19 — the SUBSCRIBE / UNSUBSCRIBE round trips without the side condition `topics ≠ []`: the argument
normalisation of `subscribe()` / `unsubscribe()` (Paho.Model.SubArgs) only hands non-empty lists to the encoders,
so every call the client accepts and can encode is recovered exactly by the strict decoder - there is no accepted call
that puts a SUBSCRIBE / UNSUBSCRIBE without a topic filter on the wire (F36: `unsubscribe([])` did, before its repair).
-/
import PahoProofs.Properties.C04
import PahoProofs.Properties.C19Sub

namespace Paho

/-- UNSUBSCRIBE: any call `unsubscribe()` accepts, once encoded, decodes to exactly its filters, in order -/
theorem c04_roundtrip_unsubscribe_call (proto mid : Nat) (f : UnsubForm) (topics : List Bytes) (props : Option Props)
    (pp body bs tl : Bytes)
    (hproto : proto = 3 ∨ proto = 4 ∨ proto = 5) (hmid : 1 ≤ mid)
    (hacc : unsubNormalize f = .ok topics)
    (hp : packProps proto props = .ok pp) (hb : proto = 5 → IsBlock pp body)
    (h : encUnsubscribe proto mid topics props = .ok bs) :
    Spec.Wire.decode proto (bs ++ tl) = some (.unsubscribe mid (if proto = 5 then some body else none) topics, tl) :=
  c04_roundtrip_unsubscribe proto mid topics props pp body bs tl hproto hmid
    (c19_unsubscribe_nonempty f topics hacc) hp hb h

/-- SUBSCRIBE: any call `subscribe()` accepts, once encoded, decodes to exactly its (filter, options byte) pairs -/
theorem c04_roundtrip_subscribe_call (proto mid : Nat) (topic : TopicForm Nat) (qos : Int) (options : OptArg Nat)
    (l : List (Bytes × Entry Nat)) (props : Option Props) (pp body bs tl : Bytes)
    (hproto : proto = 3 ∨ proto = 4 ∨ proto = 5) (hmid : 1 ≤ mid)
    (hacc : Sub.normalize proto topic qos options = .ok l)
    (hp : packProps proto props = .ok pp) (hb : proto = 5 → IsBlock pp body)
    (h : encSubscribe proto mid (l.map fun e => (e.1, entryByte e.2)) props = .ok bs) :
    Spec.Wire.decode proto (bs ++ tl) =
      some (.subscribe mid (if proto = 5 then some body else none) (l.map fun e => (e.1, entryByte e.2)), tl) :=
  c04_roundtrip_subscribe proto mid _ props pp body bs tl hproto hmid
    (fun h0 => (c19_subscribe_nonempty proto topic qos options l hacc).1 (List.map_eq_nil_iff.1 h0)) hp hb h

end Paho
