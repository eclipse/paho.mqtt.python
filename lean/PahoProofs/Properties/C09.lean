/-
C09 — automatic reconnection with exponential back-off; a user disconnect is final.
STATEMENTS TO PROVE. Model: Paho/Model/LoopForever.lean (`delayNext`, `reconnectWait`, `connLife`, `run`, `runScript`;
`Gen.backoffFactor = 2`, `Gen.backoffMinMax = Nat.min` are extracted from `_reconnect_wait`).
-/
import Paho.Model.LoopForever
import PahoProofs.Lemmas.LoopForever

namespace Paho.LF

/-- the delay register after k+1 consecutive waits starting from "no delay yet" -/
def delayAfter (c : Cfg) : Nat → Option Nat
  | 0 => none
  | k + 1 => some (delayNext c (delayAfter c k))

/-- the k-th consecutive wait (k = 0, 1, 2, …) since the register was last reset is min(min_delay · 2^k, max_delay) -/
theorem c09_delay_formula (c : Cfg) (h : 1 ≤ c.minDelay ∧ c.minDelay ≤ c.maxDelay) (k : Nat) :
    delayAfter c (k + 1) = some (Nat.min (c.minDelay * 2 ^ k) c.maxDelay) := by
  induction k with
  | zero => simp [delayAfter, delayNext, h.2]
  | succ k ih =>
    rw [delayAfter, ih, LFLemmas.delayNext_some, LFLemmas.min_step, Nat.pow_succ, Nat.mul_assoc]

/-- never sooner than min_delay, never longer than max_delay -/
theorem c09_delay_bounds (c : Cfg) (h : 1 ≤ c.minDelay ∧ c.minDelay ≤ c.maxDelay) (k : Nat) :
    ∃ d, delayAfter c (k + 1) = some d ∧ c.minDelay ≤ d ∧ d ≤ c.maxDelay :=
  ⟨_, c09_delay_formula c h k, Nat.le_min.2 ⟨Nat.le_mul_of_pos_right _ (Nat.two_pow_pos k), h.2⟩,
    Nat.min_le_right _ _⟩

/-- `_reconnect_wait()` when nobody calls disconnect() during the wait (`inWait = false`, the default argument of
`reconnectWait`): the clock advances by exactly the next delay (unless the application has disconnected), and the
delay is stored in the register -/
theorem c09_wait (c : Cfg) (s : St) :
    (reconnectWait c s false).delay = some (delayNext c s.delay) ∧
    (s.disconnected = false → (reconnectWait c s false).now = s.now + delayNext c s.delay * 1000) ∧
    (s.disconnected = true → (reconnectWait c s false).now = s.now) ∧
    (reconnectWait c s false).log = s.log ∧ (reconnectWait c s false).disconnected = s.disconnected := by
  cases h : s.disconnected
  · rw [LFLemmas.rw_false c s h]
    exact ⟨rfl, fun _ => rfl, nofun, rfl, h⟩
  · rw [LFLemmas.rw_of_disconnected c s false h]
    exact ⟨rfl, nofun, fun _ => rfl, rfl, h⟩

/-- disconnect() from another thread during the wait (`inWait = true`): the register is still set to the next delay;
the clock advances by one 1-second slice of it (`min d 1` s), hence by at most the delay; the state is then
disconnected, and exactly the user disconnect is logged, stamped with the new clock. Already disconnected before the
wait: the flag changes nothing. -/
theorem c09_wait_inWait (c : Cfg) (s : St) :
    (reconnectWait c s true).delay = some (delayNext c s.delay) ∧
    (reconnectWait c s true).disconnected = true ∧
    (reconnectWait c s true).proto = s.proto ∧
    (s.disconnected = false →
      (reconnectWait c s true).now = s.now + min (delayNext c s.delay) 1 * 1000 ∧
      s.now ≤ (reconnectWait c s true).now ∧
      (reconnectWait c s true).now ≤ s.now + delayNext c s.delay * 1000 ∧
      (reconnectWait c s true).log = s.log ++ [.userDisconnect (reconnectWait c s true).now]) ∧
    (s.disconnected = true → reconnectWait c s true = reconnectWait c s false) := by
  cases h : s.disconnected
  · rw [LFLemmas.rw_true c s h]
    exact ⟨rfl, rfl, rfl, fun _ => ⟨rfl, Nat.le_add_right _ _,
      Nat.add_le_add_left (Nat.mul_le_mul_right _ (Nat.min_le_left _ _)) _, rfl⟩, nofun⟩
  · rw [LFLemmas.rw_of_disconnected c s true h, LFLemmas.rw_of_disconnected c s false h]
    exact ⟨rfl, h, rfl, nofun, fun _ => rfl⟩

/-- well-formed configuration, register within bounds: every delay is ≥ 1 s, so a disconnect() during the wait is
noticed exactly 1 s after it began -/
theorem c09_wait_inWait_slice (c : Cfg) (h : 1 ≤ c.minDelay ∧ c.minDelay ≤ c.maxDelay) (s : St)
    (hreg : ∀ x, s.delay = some x → c.minDelay ≤ x ∧ x ≤ c.maxDelay) (hs : s.disconnected = false) :
    (reconnectWait c s true).now = s.now + 1000 := by
  have hb := LFLemmas.delayNext_bounds c h.2 s.delay hreg
  rw [LFLemmas.rw_true c s hs]
  show s.now + min (LF.delayNext c s.delay) 1 * 1000 = s.now + 1000
  rw [Nat.min_eq_right (by omega)]

/-- an accepted CONNACK resets the register: the next wait is min_delay again -/
theorem c09_reset (c : Cfg) (s : St) (t life : Nat) (d : DiscAt) :
    (connLife c s (.accepted t life d)).1.delay = none :=
  LFLemmas.connLife_delay c s (.accepted t life d)

/-- no other connection outcome touches the register -/
theorem c09_no_reset (c : Cfg) (s : St) (o : Outcome) (h : ∀ t l d, o ≠ .accepted t l d) :
    (connLife c s o).1.delay = s.delay := by
  rw [LFLemmas.connLife_delay]
  split
  · exact absurd rfl (h _ _ _)
  · rfl

def isAttempt : Obs → Bool
  | .attempt _ _ => true
  | _ => false

def isUserDisc : Obs → Bool
  | .userDisconnect _ => true
  | _ => false

def isEnd : Obs → Bool
  | .ret _ => true
  | .raised => true
  | _ => false

theorem isAttempt_eq : isAttempt = LFLemmas.isAtt := by funext o; cases o <;> rfl
theorem isUserDisc_eq : isUserDisc = LFLemmas.isUD := by funext o; cases o <;> rfl
theorem isEnd_eq : isEnd = LFLemmas.isEndE := by funext o; cases o <;> rfl

/-- the log only grows -/
theorem c09_log_mono (c : Cfg) (fuel : Nat) (script : List Outcome) (first : Bool) (s : St) :
    ∃ evs, (run c fuel script first s).log = s.log ++ evs :=
  (LFLemmas.run_Run c fuel script first s).grows.imp fun _ h => h.1

/-- a user disconnect is final: once the application has called disconnect() no further connection attempt is made … -/
theorem c09_final (c : Cfg) (script : List Outcome) (i j : Nat) (t : Nat) (t' : Nat) (ok : Bool) :
    let log := (runScript c script).log
    log[i]? = some (.userDisconnect t) → log[j]? = some (.attempt t' ok) → j < i := by
  intro log hi hj
  exact ((LFLemmas.runScript_Run c script).struct rfl).final i j t t' ok hi hj

/-- … and loop_forever() returns (or, for a failed first attempt without retry_first_connection, raises) -/
theorem c09_returns (c : Cfg) (script : List Outcome) :
    let log := (runScript c script).log
    log.any isUserDisc = true → ∃ e, log.getLast? = some e ∧ isEnd e = true := by
  intro log hu
  rw [isUserDisc_eq] at hu
  rw [isEnd_eq]
  exact ((LFLemmas.runScript_Run c script).struct rfl).returns hu

/-- `raised` has a single source: a refused FIRST attempt with retry_first_connection off. With it on, loop_forever()
never raises (in particular not on a refused in-handler protocol-downgrade retry) … -/
theorem c09_no_raise (c : Cfg) (script : List Outcome) (h : c.retryFirst = true) :
    Obs.raised ∉ (runScript c script).log := by
  obtain ⟨evs, hl, hr⟩ := (LFLemmas.runScript_Run c script).grows
  rw [hl]
  exact hr (.inr h)

/-- … so after a user disconnect it returns -/
theorem c09_returns_ret (c : Cfg) (script : List Outcome) (h : c.retryFirst = true) :
    let log := (runScript c script).log
    log.any isUserDisc = true → ∃ rc, log.getLast? = some (.ret rc) := by
  intro log hu
  obtain ⟨e, he, hee⟩ := c09_returns c script hu
  have hmem : e ∈ log := List.mem_of_getLast? he
  cases e with
  | ret rc => exact ⟨rc, he⟩
  | raised => exact (c09_no_raise c script h hmem).elim
  | _ => cases hee

/-- reconnect_on_failure = False: no further attempt after the first loss / failed attempt, and the loop returns -/
theorem c09_no_rof (c : Cfg) (script : List Outcome) (h : c.rof = false) (hne : script ≠ []) :
    let log := (runScript c script).log
    (log.filter isAttempt).length ≤ 1 ∧ ∃ e, log.getLast? = some e ∧ isEnd e = true := by
  intro log
  cases script with
  | nil => exact (hne rfl).elim
  | cons o rest =>
    -- `runScript` gives fuel `2 * rest.length + 1 + 2`: two iterations, the second for a `downgrade` not met as MQTT 3.1.1
    have hs : LFLemmas.OneShot [] log :=
      (LFLemmas.runScript_Run c (o :: rest)).oneShot h
    obtain ⟨evs, hl, hn, he⟩ := hs
    rw [List.nil_append] at hl
    rw [isAttempt_eq, isEnd_eq, hl]
    exact ⟨hn, he⟩

/-- time never runs backwards in the log, and a retry after a loss or a failed attempt comes at least min_delay later:
for adjacent entries (x, attempt), x not itself an attempt (only the in-handler protocol downgrade retry directly
follows an attempt) -/
theorem c09_min_gap (c : Cfg) (script : List Outcome) (h : 1 ≤ c.minDelay ∧ c.minDelay ≤ c.maxDelay) (i : Nat) (x : Obs) (t t' : Nat) (ok : Bool) :
    let log := (runScript c script).log
    log[i]? = some x → isAttempt x = false → obsTime x = some t → log[i + 1]? = some (.attempt t' ok) →
      t + c.minDelay * 1000 ≤ t' ∧ t' ≤ t + c.maxDelay * 1000 := by
  intro log hx hxa hxt hy
  have hg : LFLemmas.GapOK c log :=
    (LFLemmas.runScript_Run c script).gap h.2 nofun
      (LFLemmas.GapOK.nil c) (LFLemmas.LastOK.nil c _)
  rw [isAttempt_eq] at hxa
  exact hg i x t t' ok hx hxa hxt hy

/-- script of the non-vacuity checks: two refused attempts, a silent peer, a connection that lives 5 s, one more
refusal, a connection whose on_disconnect handler calls disconnect() -/
def demoScript : List Outcome :=
  [.refuse {}, .refuse {}, .eof 1000 {}, .accepted 1000 5000 {}, .refuse {}, .accepted 0 1000 { inOnDisconnect := true }]

def demoCfg : Cfg := { minDelay := 1, maxDelay := 8 }

/-- back-off 1, 2, 4 s (then reset by the accepted CONNACK), 1, 2 s: attempts at 0, 1, 3, 8, 15, 17 s -/
example : ((runScript demoCfg demoScript).log.filterMap
      (fun | .attempt t _ => some t | _ => none)) = [0, 1000, 3000, 8000, 15000, 17000] := by decide

/-- `c09_final` / `c09_returns` are not vacuous: the run contains a user disconnect, no attempt follows it, and it
ends with `ret 7` -/
example : (runScript demoCfg demoScript).log[14]? = some (.userDisconnect 18000) ∧
    (runScript demoCfg demoScript).log[11]? = some (.attempt 17000 true) ∧
    (runScript demoCfg demoScript).log.any isUserDisc = true ∧
    (runScript demoCfg demoScript).log.getLast? = some (.ret 7) := by decide

/-- `c09_min_gap` is not vacuous (entries 5, 6: a loss at 4 s, a retry at 8 s = +4 s), and the cap is reached:
`delayAfter` saturates at max_delay -/
example : (runScript demoCfg demoScript).log[5]? = some (.onDisconnect 7 4000) ∧
    (runScript demoCfg demoScript).log[6]? = some (.attempt 8000 true) ∧
    delayAfter demoCfg 3 = some 4 ∧ delayAfter demoCfg 4 = some 8 ∧ delayAfter demoCfg 7 = some 8 := by decide

/-- `c09_no_rof` is not vacuous: with reconnect_on_failure off the same script makes exactly one attempt and returns;
the `raised` ending (failed first attempt, retry_first_connection off) occurs; a refused in-handler downgrade retry
is reported like any failed attempt (on_connect_fail, then the usual back-off), not raised -/
example : (runScript { demoCfg with rof := false } demoScript).log
      = [.attempt 0 false, .onConnectFail 0, .ret 7] ∧
    (runScript { demoCfg with retryFirst := false } demoScript).log
      = [.attempt 0 false, .onConnectFail 0, .raised] ∧
    (runScript demoCfg [.downgrade 5, .refuse {}]).log
      = [.attempt 0 true, .attempt 5 false, .onConnectFail 5, .scriptEnd] ∧
    (runScript demoCfg [.downgrade 5, .refuse {}, .accepted 0 1000 {}]).log
      = [.attempt 0 true, .attempt 5 false, .onConnectFail 5, .attempt 1005 true, .onConnect 0 1005,
         .onDisconnect 7 2005, .scriptEnd] := by decide

/-- disconnect() from another thread during the back-off wait (`inWait`): the connection lives 1000 ms, the disconnect
is noticed when the first 1-second slice of the wait is over (2000 ms), loop_forever() returns 7, and the second script
item is never attempted. So `c09_final` / `c09_returns` / `c09_returns_ret` are not vacuous through the `inWait` branch
of `reconnectWait` either. -/
def waitScript : List Outcome := [.accepted 0 1000 { inWait := true }, .accepted 0 0 {}]

example : (runScript demoCfg waitScript).log
      = [.attempt 0 true, .onConnect 0 0, .onDisconnect 7 1000, .userDisconnect 2000, .ret 7] ∧
    ((runScript demoCfg waitScript).log.filter isAttempt).length = 1 ∧
    (runScript demoCfg waitScript).log.any isUserDisc = true ∧
    (runScript demoCfg waitScript).log.getLast? = some (.ret 7) ∧
    -- without the flag: on to the second attempt after the full 1 s wait
    ((runScript demoCfg [.accepted 0 1000 {}, .accepted 0 0 {}]).log.filter isAttempt).length = 2 ∧
    -- the same after a refused attempt, with a 2 s wait (noticed after 1 s: 1000 + 1000 ms)
    (runScript demoCfg [.refuse {}, .refuse { inWait := true }, .accepted 0 0 {}]).log
      = [.attempt 0 false, .onConnectFail 0, .attempt 1000 false, .onConnectFail 1000, .userDisconnect 2000,
         .ret 7] := by decide

end Paho.LF
