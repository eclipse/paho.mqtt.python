/-
T1: `Client._check_clean_session` and `Client._messages_reconnect_reset_out` (the rewind of the outgoing QoS handshake
states that every reconnect performs), translated statement by statement from the AST of the current source by
py/py2lean.py (`Paho.Gen.FnSession`, regenerated on every run), equal the functions of the session model that C01 / C02 /
C12 / C13 are stated about.
-/
import Paho.Gen.FnSession
import Paho.Model.Session
import PahoProofs.Lemmas.NatCast

namespace Paho.FnEq
open Paho Paho.Gen.Fn

/-- the integer value of `MessageState` (enums.py). The generator emits a constant for each name the translated methods
mention; `invalid`, `wait_for_pubrel`, `resend_pubcomp` and `send_pubrec` occur in neither, so their values are copied
from enums.py by hand. -/
def msCode : MS → Int
  | .invalid => 0
  | .publish => c_mqtt_ms_publish
  | .waitPuback => c_mqtt_ms_wait_for_puback
  | .waitPubrec => c_mqtt_ms_wait_for_pubrec
  | .resendPubrel => c_mqtt_ms_resend_pubrel
  | .waitPubrel => 5
  | .resendPubcomp => 6
  | .waitPubcomp => c_mqtt_ms_wait_for_pubcomp
  | .sendPubrec => 8
  | .queued => c_mqtt_ms_queued

/-- the model lists the states in the order of their values -/
theorem msCode_eq_ctorIdx (a : MS) : msCode a = (a.ctorIdx : Int) := by
  cases a <;> rfl

theorem msCode_inj (a b : MS) : msCode a = msCode b ↔ a = b := by
  refine ⟨fun h => ?_, congrArg msCode⟩
  rw [msCode_eq_ctorIdx, msCode_eq_ctorIdx, Int.ofNat_inj] at h
  rw [← MS.ofNat_ctorIdx a, ← MS.ofNat_ctorIdx b, h]

theorem msCode_beq (a b : MS) : (msCode a == msCode b) = decide (a = b) := by
  rw [Bool.beq_eq_decide_eq, decide_eq_decide]; exact msCode_inj a b

/-- the record the translated loop works on, for a message of the model (the model keeps no timestamps) -/
def absOut (ts : Int) (m : OutMsg) : PyOutMsg :=
  { timestamp := ts, qos := (m.qos : Int), state := msCode m.state, dup := m.dup }

/-- the configurations the client can be in: `clean_session` a bool (MQTT 3), `clean_start` a bool or
MQTT_CLEAN_START_FIRST_ONLY (MQTT 5) -/
def cleanOk (c : Cfg) : Prop := c.clean = 0 ∨ c.clean = 1 ∨ c.clean = 3

/-- **`Client._check_clean_session` as the source has it now = the model's `checkCleanSession`** -/
theorem fn_checkCleanSession (s : S) (hc : cleanOk s.cfg) :
    Gen.Fn.checkCleanSession (s.proto : Int) (s.cfg.clean : Int) s.firstConnect (decide (s.cfg.clean = 1))
      = .ok s.checkCleanSession := by
  have hp : ((s.proto : Int) == c_MQTTv5) = decide (s.proto = 5) := natCast_beq s.proto 5
  unfold Gen.Fn.checkCleanSession S.checkCleanSession
  dsimp only
  rw [hp]
  by_cases h5 : s.proto = 5
  · rw [decide_eq_true h5, if_pos rfl, if_pos h5]
    rcases hc with h | h | h <;> rw [h] <;> rfl
  · rw [decide_eq_false h5, if_neg Bool.false_ne_true, if_neg h5]
    rfl

/-- one iteration of the loop of `_messages_reconnect_reset_out`: with the in-flight counter at 0 (where the method puts it,
and where it stays: the increments are commented out in the source) the window test always succeeds and the record is
rewound exactly as the model's `resetOutMsg` says; its timestamp is zeroed -/
theorem fn_resetOut_body (s : S) (hc : cleanOk s.cfg) (ts : Int) (m : OutMsg) :
    messagesReconnectResetOut_body 0 (s.cfg.maxInflight : Int) (s.proto : Int) (s.cfg.clean : Int) s.firstConnect
        (decide (s.cfg.clean = 1)) (absOut ts m)
      = .ok (0, absOut 0 (S.resetOutMsg s.checkCleanSession m)) := by
  have hw : ∀ n : Nat, (((n : Int) == 0) || decide ((0 : Int) < (n : Int))) = true
    | 0 => rfl
    | k + 1 => by rw [decide_eq_true (Int.natCast_succ_pos k), Bool.or_true]
  -- the state tests of the translated code, as tests on the model's state
  have e1 : c_mqtt_ms_publish = msCode .publish := rfl
  have e2 : c_mqtt_ms_wait_for_puback = msCode .waitPuback := rfl
  have e3 : c_mqtt_ms_wait_for_pubrec = msCode .waitPubrec := rfl
  have e4 : c_mqtt_ms_resend_pubrel = msCode .resendPubrel := rfl
  have e7 : c_mqtt_ms_wait_for_pubcomp = msCode .waitPubcomp := rfl
  have e9 : c_mqtt_ms_queued = msCode .queued := rfl
  unfold messagesReconnectResetOut_body
  simp only [hw s.cfg.maxInflight, fn_checkCleanSession s hc, bind, Except.bind, pure, Except.pure, if_true]
  unfold S.resetOutMsg absOut
  simp only [e1, e2, e3, e4, e7, e9, msCode_beq]
  by_cases h0 : m.qos = 0
  · simp [h0]
  by_cases h1 : m.qos = 1
  · by_cases hs : m.state = .waitPuback <;> simp [h1, hs]
  by_cases h2 : m.qos = 2
  · cases s.checkCleanSession
    · by_cases ha : m.state = .waitPubcomp ∨ m.state = .resendPubrel
      · rcases ha with ha | ha <;> simp [h2, ha]
      · rw [not_or] at ha
        by_cases hb : m.state = .waitPubrec <;> simp [h2, ha.1, ha.2, hb]
    · by_cases ha : m.state = .publish
      · simp [h2, ha]
      · by_cases hb : m.state = .queued <;> simp [h2, ha, hb]
  · have e0 : ((m.qos : Int) == 0) = false := beq_eq_false_iff_ne.2 fun e => h0 (Int.ofNat_inj.1 e)
    have e1 : ((m.qos : Int) == 1) = false := beq_eq_false_iff_ne.2 fun e => h1 (Int.ofNat_inj.1 e)
    have e2 : ((m.qos : Int) == 2) = false := beq_eq_false_iff_ne.2 fun e => h2 (Int.ofNat_inj.1 e)
    simp [h0, h1, h2, e0, e1, e2]

theorem fn_resetOut_loop (s : S) (hc : cleanOk s.cfg) (ts : OutMsg → Int) (ms : List OutMsg) :
    messagesReconnectResetOut_loop (s.cfg.maxInflight : Int) (s.proto : Int) (s.cfg.clean : Int) s.firstConnect
        (decide (s.cfg.clean = 1)) 0 (ms.map (fun m => absOut (ts m) m))
      = .ok (0, (ms.map (S.resetOutMsg s.checkCleanSession)).map (absOut 0)) := by
  induction ms with
  | nil => rfl
  | cons m rest ih =>
    simp only [List.map_cons, messagesReconnectResetOut_loop, fn_resetOut_body s hc, ih, bind, Except.bind, pure,
      Except.pure]

/-- **`Client._messages_reconnect_reset_out` as the source has it now = the model's `messagesReconnectResetOut`**: for every
state of the model (any protocol version, clean-session / clean-start setting, window size, counter value) and every
message table, the translated method leaves `_inflight_messages = 0` and the records of the model's result, in the same
order, with their timestamps zeroed. In particular the QoS 2 branch keeps a message that has seen its
PUBREC in `resend_pubrel` in a persistent session (C02), sets DUP only on messages that had been sent (C02), and never
parks a message as `queued` (the window test is vacuous here - known finding F4, C12). -/
theorem fn_messagesReconnectResetOut (s : S) (hc : cleanOk s.cfg) (ts : OutMsg → Int) :
    Gen.Fn.messagesReconnectResetOut s.inflight (s.cfg.maxInflight : Int) (s.proto : Int) (s.cfg.clean : Int) s.firstConnect
        (decide (s.cfg.clean = 1)) (s.out.map (fun m => absOut (ts m) m))
      = .ok (s.messagesReconnectResetOut.inflight, s.messagesReconnectResetOut.out.map (absOut 0)) := by
  unfold Gen.Fn.messagesReconnectResetOut
  simp only [fn_resetOut_loop s hc ts, S.messagesReconnectResetOut]

/-- the hypothesis is met by every configuration the drivers use, e.g. the default one -/
example : cleanOk ({} : Cfg) := by unfold cleanOk; decide

end Paho.FnEq
