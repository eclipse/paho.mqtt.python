/-
T1, translated: `VariableByteIntegers.encode` and `VariableByteIntegers.decode`, translated from the AST of the current
source by py/py2lean.py (`Paho.Gen.FnVbi`, regenerated on every run; the while-loops with fuel), equal for all arguments the
model's `vbiEnc` / `vbiDec`, which the variable-byte-integer theorems of C17 are stated about.
-/
import Paho.Gen.FnVbi
import PahoProofs.Lemmas.PyOps

namespace Paho.FnEq
open Paho Paho.Gen.Fn

theorem vbiEncode_body_eq (buf : Bytes) (n : Nat) :
    vbiEncode_body (n : Int) buf =
      .ok (if n / 128 > 0 then .cont (((n / 128 : Nat) : Int), buf ++ [b8 (n % 128 + 128)])
           else .brk (((n / 128 : Nat) : Int), buf ++ [b8 (n % 128)])) := by
  simp only [vbiEncode_body, digit_cast, more_cast]
  by_cases h : n / 128 > 0 <;>
    simp only [h, decide_true, decide_false, if_true, if_false, Bool.not_true, Bool.not_false, Bool.false_eq_true,
      bor128_mod, byteOf_low, byteOf_high, bind, Except.bind, pure, Except.pure]

theorem vbiEncode_loop_eq (fuel : Nat) : ∀ (n : Nat) (buf : Bytes), n < fuel →
    vbiEncode_loop fuel ((n : Int), buf) = .ok (buf ++ remLenEnc n) := by
  induction fuel with
  | zero => intro n _ h; omega
  | succ fuel ih =>
    intro n buf hn
    rw [vbiEncode_loop, vbiEncode_body_eq, PropsLemmas.remLenEnc_step]
    by_cases h : n / 128 > 0
    · rw [if_pos h, if_pos h]
      simp only
      rw [ih _ _ (Nat.lt_of_lt_of_le (Nat.div_lt_self (Nat.pos_of_div_pos h) (by decide)) (Nat.le_of_lt_succ hn)),
        List.append_assoc, List.singleton_append]
    · rw [if_neg h, if_neg h]
      rfl

/-- **`VariableByteIntegers.encode` as the source has it now = the model's `vbiEnc`**, for every integer (the range
check included) -/
theorem fn_vbiEncode (x : Int) : vbiEncode x = vbiEnc x := by
  have hg : (!(decide (0 ≤ x) && decide (x ≤ 268435455))) = !decide (Gen.vbiLo ≤ x ∧ x ≤ Gen.vbiHi) := by
    rw [Bool.decide_and]; rfl
  rw [vbiEncode, vbiEnc, hg]
  by_cases h : Gen.vbiLo ≤ x ∧ x ≤ Gen.vbiHi
  · obtain ⟨n, rfl⟩ := Int.eq_ofNat_of_zero_le h.1
    rw [if_pos h, decide_eq_true h, Int.toNat_natCast]
    exact (vbiEncode_loop_eq _ n [] (Nat.lt_succ_self n)).trans (by rw [List.nil_append])
  · rw [if_neg h, decide_eq_false h]
    rfl

/-- the model's result read as Python values (ints), its "buffer exhausted" error as IndexError -/
def liftDec : Except Exc (Nat × Nat) → Except Exc (Int × Int)
  | .ok (v, k) => .ok ((v : Int), (k : Int))
  | .error _ => .error .indexError

theorem vbiDecode_loop_eq (fuel : Nat) : ∀ (b : Bytes) (mult value used : Nat), b.length < fuel →
    vbiDecode_loop fuel (b, (mult : Int), (value : Int), (used : Int)) = liftDec (vbiDecAux b mult value used) := by
  induction fuel with
  | zero => intro b _ _ _ h; omega
  | succ fuel ih =>
    intro b mult value used hb
    cases b with
    | nil => rfl
    | cons d rest =>
      have band127 : Py.band (d.toNat : Int) 127 = .ok ((d.toNat &&& 127 : Nat) : Int) := band_nat _ 127
      have band128 : Py.band (d.toNat : Int) 128 = .ok ((d.toNat &&& 128 : Nat) : Int) := band_nat _ 128
      have hz : (((d.toNat &&& 128 : Nat) : Int) == 0) = decide (d.toNat &&& 128 = 0) := by
        rw [Bool.eq_iff_iff, beq_iff_eq, decide_eq_true_eq]; omega
      simp only [vbiDecode_loop, vbiDecode_body, Py.first, band127, band128, hz, vbiDecAux, bind, Except.bind, pure,
        Except.pure, List.drop_succ_cons, List.drop_zero]
      by_cases h : d.toNat &&& 128 = 0
      · simp only [h, decide_true, if_true]
        simp only [vbiDecode_after, pure, Except.pure, liftDec]
        push_cast; rfl
      · simp only [h, decide_false, if_false, Bool.false_eq_true]
        rw [← ih rest (mult * 128) (value + (d.toNat &&& 127) * mult) (used + 1) (by simpa using hb)]
        push_cast; rfl

/-- **`VariableByteIntegers.decode` as the source has it now = the model's `vbiDec`** (value and number of bytes
used; IndexError when the buffer ends inside the integer), for every buffer -/
theorem fn_vbiDecode (b : Bytes) : vbiDecode b = liftDec (vbiDec b) := by
  unfold vbiDecode vbiDec
  have := vbiDecode_loop_eq (b.length + 1) b 1 0 0 (by omega)
  simpa using this

end Paho.FnEq
