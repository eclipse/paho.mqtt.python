/-
C19 — "A rejected call has no other effect": in the session model a publish()/subscribe()/unsubscribe() whose
arguments are refused records the exception and changes NO other component of the client state (message tables,
packet queue, id generator, in-flight counter, timers, socket, callbacks ...), in every state.
-/
import Paho.Model.Session
import PahoProofs.Properties.C19

namespace Paho

/-- publish(): the whole of its up-front validation -/
theorem c19_publish_reject_atomic (s : S) (qos : Nat) (topic payload : Bytes) (retain : Bool) (e : Exc)
    (h : publishCheckFull s.proto topic qos .bytes payload.length (if s.proto = 5 then 1 else 0) = some e) :
    ∃ name, s.step (.publish qos topic payload retain) = { s with log := s.log ++ [Ev.exc name] } := by
  show ∃ name, s.publish qos topic payload retain = _
  rw [S.publish, h]
  cases e <;> exact ⟨_, rfl⟩

/-- ... and the refusal is raised exactly when the documented conditions fail (c19_publish_accept), e.g. a wildcard
in the topic or QoS 3 -/
theorem c19_publish_reject_when (s : S) (qos : Nat) (topic payload : Bytes) (retain : Bool)
    (hbad : Spec.validTopic topic = false ∨ qos > 2 ∨ topic.length > 65535 ∨ (s.proto ≠ 5 ∧ topic = [])) :
    ∃ name, s.step (.publish qos topic payload retain) = { s with log := s.log ++ [Ev.exc name] } := by
  have hne : publishCheck s.proto topic qos .bytes payload.length ≠ none := by
    intro hn
    have := (c19_publish_accept s.proto topic qos .bytes payload.length).1 hn
    rcases hbad with h | h | h | ⟨h1, h2⟩
    · rw [this.2.1] at h; cases h
    · omega
    · omega
    · rcases this.1 with h | h
      · exact h1 h
      · exact h h2
  cases hc : publishCheck s.proto topic qos .bytes payload.length with
  | none => exact absurd hc hne
  | some e =>
    exact c19_publish_reject_atomic s qos topic payload retain e (by simp [publishCheckFull, hc])

/-- subscribe(): QoS out of range, an empty topic (MQTT 3) or a filter the MQTT grammar forbids: ValueError and
nothing else -/
theorem c19_subscribe_reject_atomic (s : S) (topic : Bytes) (qos : Nat)
    (hbad : qos > 2 ∨ Spec.validFilter topic = false) :
    s.step (.subscribe topic qos) = { s with log := s.log ++ [Ev.exc "ValueError"] } := by
  show s.subscribe topic qos = s.emit (.exc "ValueError")
  rw [S.subscribe]
  by_cases hq : qos > 2
  · rw [if_pos hq]
  · have hf : (!filterCheck topic) = true := by rw [c19_filter, hbad.resolve_left hq]; rfl
    rw [if_neg hq, if_pos hf, ite_self]

/-- unsubscribe(): an empty topic string: ValueError and nothing else -/
theorem c19_unsubscribe_reject_atomic (s : S) :
    s.step (.unsubscribe []) = { s with log := s.log ++ [Ev.exc "ValueError"] } :=
  rfl

/-- a call made without a connection (MQTT_ERR_NO_CONN) has no other effect either -/
theorem c19_subscribe_noconn_atomic (s : S) (topic : Bytes) (qos : Nat) (hs : s.sock = none)
    (hq : qos ≤ 2) (hv : Spec.validFilter topic = true) :
    s.step (.subscribe topic qos) = { s with log := s.log ++ [Ev.ret rcNoConn none] } := by
  have hf : ¬ (!filterCheck topic) = true := by rw [c19_filter, hv]; decide
  have hne : ¬ (s.proto ≠ 5 ∧ topic.isEmpty = true) := fun h => by
    rw [List.isEmpty_iff.1 h.2] at hv; cases hv
  show s.subscribe topic qos = s.emit (.ret rcNoConn none)
  rw [S.subscribe, if_neg (Nat.not_lt.2 hq), if_neg hne, if_neg hf, hs]

/-! non-vacuity: a connected state with stored messages; the rejected call changes only the log -/
example : (S.init {} 4 0).step (.publish 1 [97, 47, 43] [1] false)
    = { (S.init {} 4 0) with log := [Ev.exc "ValueError"] } := by rfl

end Paho
