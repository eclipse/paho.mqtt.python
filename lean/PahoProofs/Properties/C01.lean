/-
C01 — QoS 1/2 publishes survive any reconnect history and complete exactly once;
C13 — publish() order; C14 (session part) — live messages never share a packet id.
Proved for every history of operations from the initial state, from `PahoProofs/Lemmas/OutFrame.lean` (frame lemmas),
`OutStore.lean` (what the handlers do to the message store), `OutInv.lean` (the invariants) and `OutRetx.lean`
(retransmission).
No statement was changed (`c01_final_ack_rc` was added when `_do_on_publish` started to set `info.rc`).
-/
import PahoProofs.Lemmas.OutRetx

namespace Paho
open Paho.OutLemmas

theorem isFinalAck_unique {op : Op} {a b : Nat} (ha : op.isFinalAck a = true) (hb : op.isFinalAck b = true) : a = b := by
  cases op with
  | rx item ok =>
    cases item with
    | pkt p => cases p <;> first | exact (of_decide_eq_true ha).symm.trans (of_decide_eq_true hb) | cases ha
    | _ => cases ha
  | _ => cases ha

theorem c14_live_distinct (cfg : Cfg) (proto : Nat) (ops : List Op) :
    (runFrom cfg proto ops).invMidNodup = true := (Inv.reach cfg proto ops).invMidNodup

theorem c14_range_session (cfg : Cfg) (proto : Nat) (ops : List Op) :
    (runFrom cfg proto ops).invMidRange = true := (Inv.reach cfg proto ops).invMidRange

/-- a QoS 1/2 publish whose fresh id collides with a live message is refused and stores nothing -/
theorem c14_collision_refused (s : S) (qos : Nat) (topic payload : Bytes) (retain : Bool)
    (hq : qos = 1 ∨ qos = 2) (hcol : s.out.any (·.mid = midNext s.lastMid) = true)
    (hvalid : publishCheckFull s.proto topic qos .bytes payload.length (if s.proto = 5 then 1 else 0) = none) :
    (s.publish qos topic payload retain).out = s.out ∧
      Ev.ret rcQueueSize (some (midNext s.lastMid)) ∈ (s.publish qos topic payload retain).log := by
  have h := publish_case retain hvalid
  generalize s.publish qos topic payload retain = r at h ⊢
  cases h with
  | qos0 h0 => omega
  | refused => exact ⟨pubDone_out .., pubDone_log .. ▸ List.mem_append_right _ (List.mem_singleton_self _)⟩
  | sent _ hc => rw [hcol] at hc; cases hc
  | queued _ hc => rw [hcol] at hc; cases hc

/-- `_out_messages` is always in publish() order (instance ids strictly increasing) -/
theorem c13_out_sorted (cfg : Cfg) (proto : Nat) (ops : List Op) :
    (runFrom cfg proto ops).invOutSorted = true := (Inv.reach cfg proto ops).invOutSorted

/-- in every step, the PUBLISH/PUBREL packets handed to a connection for stored messages
(retransmission after CONNACK, release from the window) are handed in increasing instance order,
except that the message accepted by this very `publish()` call may come in any position (it is the newest) -/
theorem c13_step_order (cfg : Cfg) (proto : Nat) (ops : List Op) (op : Op) :
    let s := runFrom cfg proto ops
    let uids := (newEvents s op).filterMap (fun e => match e with
      | .qPublish _ u _ q _ => if q > 0 then some u else none
      | .qPubrel _ u _ => some u
      | _ => none)
    S.sortedLt uids = true ∨ (∃ q t p r, op = .publish q t p r) ∨ (∃ m, op = .rx (.pkt (.pubrec m)) true ∨ op = .rx (.pkt (.pubrec m)) false) := by
  intro s uids
  have hi := Inv.reach cfg proto ops
  have huids : uids = uidsOf (newEvents s op) := by
    simp only [uids, uidsOf]
    congr 1
  cases stepCase s op with
  | pub q t p r h _ => exact Or.inr (Or.inl ⟨q, t, p, r, h⟩)
  | other hna s0 hms hq =>
    left
    obtain ⟨g, hsame, hq⟩ := hq
    obtain ⟨evs, hlog, hg⟩ := hsame.same.log
    rw [midStep_log hms] at hlog
    rw [huids, newEvents_eq hlog, ← uidsOf_filter_ghost, hg]
    have := hq.2 (by rw [midStep_out hms]; exact hi.nodup)
    rw [midStep_out hms] at this
    exact sortedLt_of_pairwise _ (hi.sorted.sublist this)
  | ack mid m0 c h hs hf ha =>
    left
    obtain ⟨⟨g, hsame, hq⟩, -⟩ := ha
    obtain ⟨evs, hlog, hg⟩ := hsame.log
    rw [ackState_log, List.append_assoc] at hlog
    rw [huids, newEvents_eq hlog, uidsOf_append]
    have h3 : uidsOf [Ev.onPublish mid, Ev.completed m0.info mid,
        Ev.infoDone m0.info rcSuccess] = [] := rfl
    rw [h3, List.nil_append, ← uidsOf_filter_ghost, hg]
    have hsub : (s.out.filter (·.mid ≠ mid)).Sublist s.out := List.filter_sublist
    exact sortedLt_of_pairwise _ (hi.sorted.sublist ((hq.2 (hi.nodup.sublist (hsub.map _))).trans (hsub.map _)))

/-- ownership: a stored message (instance `uid`) is still stored after any step that is not the delivery of
a final acknowledgement carrying its packet id -/
theorem c01_owned (cfg : Cfg) (proto : Nat) (ops : List Op) (op : Op) (m : OutMsg) :
    let s := runFrom cfg proto ops
    m ∈ s.out → op.isFinalAck m.mid = false → ∃ m' ∈ (s.step op).out, m'.info = m.info ∧ m'.mid = m.mid ∧ m'.qos = m.qos := by
  intro s hm hna
  cases stepCase s op with
  | pub q t p r h hs =>
    rcases hs.keys with hk | ⟨-, -, -, hk⟩
    · exact mem_of_key_mem (hk ▸ List.mem_map_of_mem hm)
    · exact mem_of_key_mem (hk ▸ List.mem_append_left _ (List.mem_map_of_mem hm))
  | ack mid m0 c h hs hf ha =>
    obtain ⟨⟨g, hsame, -⟩, -⟩ := ha
    have hne : m.mid ≠ mid := fun e => by rw [e, h] at hna; cases hna
    exact mem_of_key_mem (hsame.keys ▸ List.mem_map_of_mem (List.mem_filter.mpr ⟨hm, by simp [hne]⟩))
  | other hna' s0 hms hq =>
    obtain ⟨g, hsame, -⟩ := hq
    exact mem_of_key_mem (hsame.same.keys ▸ List.mem_map_of_mem (midStep_out hms ▸ hm))

/-- an accepted QoS 1/2 publish (any result other than QUEUE_SIZE) is stored -/
theorem c01_accepted_stored (s : S) (qos : Nat) (topic payload : Bytes) (retain : Bool) (rc : RC) (mid : Nat)
    (hq : qos = 1 ∨ qos = 2)
    (hret : (s.publish qos topic payload retain).log.getLast? = some (.ret rc (some mid))) (hrc : rc ≠ rcQueueSize) :
    ∃ m ∈ (s.publish qos topic payload retain).out, m.mid = mid ∧ m.qos = qos ∧ m.info = s.infos.length := by
  cases hv : publishCheckFull s.proto topic qos .bytes payload.length (if s.proto = 5 then 1 else 0) with
  | some e =>
    obtain ⟨n, e⟩ := publish_invalid retain hv
    simp [e, S.emit] at hret
  | none =>
  have h := publish_case retain hv
  generalize s.publish qos topic payload retain = r at h hret ⊢
  have last : ∀ {t : S} {rc' : RC}, (pubDone s t rc').log.getLast? = some (.ret rc (some mid)) →
      rc' = rc ∧ midNext s.lastMid = mid := fun h => by simpa [pubDone_log] using h
  cases h with
  | qos0 h0 => omega
  | refused => exact absurd (last hret).1.symm hrc
  | sent h0 _ _ s3 rc' hr =>
    have hout := (sendPublish_lowQ hr).out
    have hm3 : pubMsg s qos topic payload retain (if qos = 1 then .waitPuback else .waitPubrec) ∈ s3.out :=
      hout ▸ List.mem_append_right _ (List.mem_singleton_self _)
    refine ite_ind (P := fun s4 => ∃ m ∈ (pubDone s s4 rc').out, m.mid = mid ∧ m.qos = qos ∧ m.info = s.infos.length)
      (fun _ => ?_) fun _ =>
      ⟨_, hm3, (last hret).2, rfl, rfl⟩
    refine ⟨_, List.mem_map_of_mem hm3, ?_⟩
    simpa only [pubMsg, if_true, and_self, and_true] using (last hret).2
  | queued => exact ⟨_, List.mem_append_right _ (List.mem_singleton_self _), (last hret).2, rfl, rfl⟩

theorem final_ack_step {s : S} (hi : Inv s) {m : OutMsg} (hm : m ∈ s.out) {op : Op}
    (hfa : op.isFinalAck m.mid = true) (hsock : s.sock.isSome) : AckStep s m.mid m (s.step op) := by
  obtain ⟨c, hs⟩ := Option.isSome_iff_exists.mp hsock
  exact step_ack s op hfa hs (find_of_mem hi.nodup hm)

theorem count_completed_of_noCompl {evs : List Ev} (h : ∀ e ∈ evs, isCompleted e = false) (u mid : Nat) :
    evs.count (.completed u mid) = 0 := by
  rw [List.count_eq_zero]
  intro hin
  have := h _ hin
  simp [isCompleted] at this

/-- completion (on_publish + MQTTMessageInfo published) of a stored message happens only in the step that
delivers its final acknowledgement on an open socket, exactly once in that step -/
theorem c01_complete_step (cfg : Cfg) (proto : Nat) (ops : List Op) (op : Op) (m : OutMsg) :
    let s := runFrom cfg proto ops
    m ∈ s.out →
      (newEvents s op).count (.completed m.info m.mid) = (if op.isFinalAck m.mid ∧ s.sock.isSome then 1 else 0) := by
  intro s hm
  have hi := Inv.reach cfg proto ops
  cases stepCase s op with
  | pub q t p r h hs =>
    obtain ⟨evs, hlog, hc⟩ := hs.log
    rw [newEvents_eq hlog, count_completed_of_noCompl (evs_noCompl rfl hc)]
    subst h; simp [Op.isFinalAck]
  | other hna s0 hms hq =>
    obtain ⟨g, hsame, hq⟩ := hq
    obtain ⟨evs, hlog, hg⟩ := hsame.same.log
    rw [midStep_log hms] at hlog
    rw [newEvents_eq hlog, count_completed_of_noCompl (evs_noCompl hg hq.1)]
    rw [if_neg]
    rintro ⟨hfa, hsock⟩
    rcases hna m.mid hfa with h | h
    · rw [h] at hsock; cases hsock
    · rw [find_of_mem hi.nodup hm] at h; cases h
  | ack mid m0 c h hs hf ha =>
    obtain ⟨⟨g, hsame, hq⟩, -⟩ := ha
    obtain ⟨evs, hlog, hg⟩ := hsame.log
    rw [ackState_log, List.append_assoc] at hlog
    rw [newEvents_eq hlog, List.count_append, count_completed_of_noCompl (evs_noCompl hg hq.1)]
    by_cases hmid : mid = m.mid
    · subst hmid
      cases (find_of_mem hi.nodup hm).symm.trans hf
      simp [h, hs]
    · have hfa : ¬ op.isFinalAck m.mid = true := fun h' => hmid (isFinalAck_unique h h')
      simp [hfa, hmid]

/-- every completion is accompanied by exactly one on_publish callback for that packet id, emitted just before it -/
theorem c01_complete_has_callback (cfg : Cfg) (proto : Nat) (ops : List Op) (i u mid : Nat) :
    let log := (runFrom cfg proto ops).log
    log[i + 1]? = some (.completed u mid) → log[i]? = some (.onPublish mid) :=
  (Inv.reach cfg proto ops).cb i u mid

/-- a message instance completes at most once in a whole history -/
theorem c01_complete_once (cfg : Cfg) (proto : Nat) (ops : List Op) (u : Nat) :
    ((runFrom cfg proto ops).log.filter (fun e => match e with | .completed u' _ => u' = u | _ => false)).length ≤ 1 := by
  have h := ((Inv.reach cfg proto ops).once u).1
  have e : (fun e : Ev => match e with | .completed u' _ => decide (u' = u) | _ => false) = isComplOf u := by
    funext e; cases e <;> rfl
  rw [e]; exact h

/-- when the final acknowledgement is delivered on an open socket, the message is removed and its
MQTTMessageInfo is marked published in that step -/
theorem c01_final_ack (cfg : Cfg) (proto : Nat) (ops : List Op) (op : Op) (m : OutMsg) :
    let s := runFrom cfg proto ops
    m ∈ s.out → op.isFinalAck m.mid = true → s.sock.isSome →
      (¬ ∃ m' ∈ (s.step op).out, m'.mid = m.mid) ∧ ((s.step op).infos[m.info]?.map (·.published)) = some true := by
  intro s hm hfa hsock
  have hi := Inv.reach cfg proto ops
  obtain ⟨⟨g, hsame, -⟩, -⟩ := final_ack_step hi hm hfa hsock
  refine ⟨fun ⟨m', hm', e⟩ => ?_, ?_⟩
  · have : m'.mid ∈ (ackState s m.mid m).out.map (·.mid) := mids_of_keys hsame.keys ▸ List.mem_map_of_mem hm'
    obtain ⟨m'', hm'', e'⟩ := List.mem_map.mp this
    simpa [e', e] using (List.mem_filter.mp hm'').2
  · have hp : pubAt (ackState s m.mid m) m.info = some true := by rw [pubAt_ackState, if_pos ⟨rfl, (hi.range m hm).2.2.1⟩]
    exact (hsame.pub m.info).elim (·.trans hp) (·.1)

/-- (added with the F27 model change) the step that delivers the final acknowledgement on an open socket
starts with: on_publish callback, completion of the instance, and `MQTTMessageInfo` marked published with
`rc = MQTT_ERR_SUCCESS` (whatever result `publish()` had stored in it before) -/
theorem c01_final_ack_rc (cfg : Cfg) (proto : Nat) (ops : List Op) (op : Op) (m : OutMsg) :
    let s := runFrom cfg proto ops
    m ∈ s.out → op.isFinalAck m.mid = true → s.sock.isSome →
      ∃ evs, newEvents s op =
        [Ev.onPublish m.mid, Ev.completed m.info m.mid, Ev.infoDone m.info rcSuccess] ++ evs := by
  intro s hm hfa hsock
  obtain ⟨⟨g, hsame, -⟩, -⟩ := final_ack_step (Inv.reach cfg proto ops) hm hfa hsock
  obtain ⟨evs, hlog, -⟩ := hsame.log
  exact ⟨evs, newEvents_eq (by rw [hlog, ackState_log, List.append_assoc])⟩

/-- a message's info is not marked published while the message is still stored -/
theorem c01_not_early (cfg : Cfg) (proto : Nat) (ops : List Op) (m : OutMsg) :
    let s := runFrom cfg proto ops
    m ∈ s.out → (s.infos[m.info]?.map (·.published)) = some false := by
  intro s hm
  have hi := Inv.reach cfg proto ops
  have h1 := hi.pinv.1 m.info (Or.inr (List.mem_map_of_mem hm))
  have h2 : m.info < s.infos.length := (hi.range m hm).2.2.1
  rw [pubAt, List.getElem?_eq_getElem h2] at h1
  rw [List.getElem?_eq_getElem h2]
  cases hp : (s.infos[m.info]).published with
  | false => exact congrArg some hp
  | true => exact absurd (congrArg some hp) h1

/-- retransmission: when a CONNACK accepts the connection, every stored message in state `publish`
(resp. `resendPubrel`) is handed to that connection as PUBLISH (resp. PUBREL) in that step, unless a
write fails first (then the connection is gone) -/
theorem c01_retransmit (cfg : Cfg) (proto : Nat) (ops : List Op) (sp ok : Bool) (m : OutMsg) (c : Nat) :
    let s := runFrom cfg proto ops
    let s' := s.step (.rx (.pkt (.connack sp 0)) ok)
    s.sock = some c → m ∈ s.out → (m.state = .publish ∨ m.state = .resendPubrel) →
    (¬ (s.proto = 5 ∧ False)) →
      s'.sock ≠ some c ∨
      (m.state = .publish → ∃ d, Ev.qPublish c m.info m.mid m.qos d ∈ newEvents s (.rx (.pkt (.connack sp 0)) ok)) ∧
      (m.state = .resendPubrel → Ev.qPubrel c m.info m.mid ∈ newEvents s (.rx (.pkt (.connack sp 0)) ok)) := by
  intro s s' hs hm _ _
  obtain ⟨evs, hlog, hres⟩ :=
    handleConnack_retx s sp ok c hs (SInv.reach cfg proto ops) (Inv.reach cfg proto ops).nodup
  have hpost : Low [] (s.handleConnack sp 0 ok).1 (s.loopRead (.pkt (.connack sp 0)) ok).1 :=
    loopRead_pkt_low s (.connack sp 0) ok c hs
  obtain ⟨evs2, hlog2, -⟩ := hpost.log
  have hlog' : s'.log = s.log ++ (evs ++ evs2 ++ [hresEv (s.loopRead (.pkt (.connack sp 0)) ok).2]) := by
    show (s.loopRead (.pkt (.connack sp 0)) ok).1.log ++ [hresEv (s.loopRead (.pkt (.connack sp 0)) ok).2] = _
    rw [hlog2, hlog]; simp
  refine hres.imp (fun h => ?_) fun h => (h m hm).mono fun e he => ?_
  · show (s.loopRead (.pkt (.connack sp 0)) ok).1.sock ≠ some c
    rcases hpost.sock with h' | h' <;> rw [h']
    · exact h
    · nofun
  · rw [newEvents_eq hlog']; simp [he]

/-! ## non-vacuity: concrete histories (kernel evaluation) -/

/-- connect, CONNACK, publish QoS 1: the message is stored, waiting for its PUBACK -/
example : ((runFrom {} 4 [.connect true, .rx (.pkt (.connack false 0)) true, .publish 1 [116] [1] false]).out.map
    (fun m => (m.mid, m.qos, m.info, m.state))) = [(1, 1, 0, .waitPuback)] := by decide +kernel

/-- ... and its PUBACK completes instance 0 exactly once in that step -/
example : (newEvents (runFrom {} 4 [.connect true, .rx (.pkt (.connack false 0)) true, .publish 1 [116] [1] false])
    (.rx (.pkt (.puback 1)) true)).count (.completed 0 1) = 1 := by decide +kernel

/-- a QoS 2 message published while disconnected is stored in state `publish` and is handed to the new
connection when its CONNACK arrives -/
example : (runFrom {} 4 [.publish 2 [116] [1] false, .connect true]).out.map (fun m => (m.mid, m.state)) =
    [(1, .publish)] := by decide +kernel

example : Ev.qPublish 1 0 1 2 false ∈
    newEvents (runFrom {} 4 [.publish 2 [116] [1] false, .connect true]) (.rx (.pkt (.connack false 0)) true) := by
  decide +kernel

/-- the PUBACK step reports instance 0 as published with rc = MQTT_ERR_SUCCESS (0) -/
example : Ev.infoDone 0 rcSuccess ∈
    newEvents (runFrom {} 4 [.connect true, .rx (.pkt (.connack false 0)) true, .publish 1 [116] [1] false])
      (.rx (.pkt (.puback 1)) true) := by decide +kernel

end Paho
