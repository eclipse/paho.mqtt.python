/-
T1: the callbacks of the one-shot helpers (`subscribe._on_message_simple`, `subscribe._on_connect`,
`publish._do_publish`, `publish._on_connect`, `publish._on_publish`), translated statement by statement from the AST of the
current source by py/py2lean.py (`Paho.Gen.FnHelpers`, regenerated on every run), equal the functions of the helper model
(`Paho.Model.Helpers`) that C20 is stated about: new userdata and the calls made on the client, in order.
-/
import Paho.Gen.FnHelpers
import PahoProofs.Properties.C20
import PahoProofs.Lemmas.NatCast

namespace Paho.FnEq
open Paho Paho.Py Paho.Gen.Fn Paho.Helpers

-- the `Except` monad of the translated code computes
attribute [local simp] pure Except.pure bind Except.bind throw throwThe MonadExceptOf.throw

/-! ### subscribe.py -/

/-- an inbound message as the callback sees it (`tag` names everything the callback does not look at) -/
def absIn (tag : InMsg → Nat) (m : InMsg) : PyInMsg := { retain := m.retain, tag := tag m }

/-- the `userdata` dictionary of subscribe.simple: `messages` is `None` until the single message of the msg_count = 1
form has arrived, otherwise the list -/
def absUD (tag : InMsg → Nat) (s : SubSt) : SimpleUD :=
  { msg_count := (s.msgCount : Int), retained := s.retained,
    messages := if s.single then (match s.result with | some m => .one (absIn tag m) | none => .none)
                else .many (s.messages.map (absIn tag)) }

/-- the states subscribe.simple can be in -/
def SimpleInv (s : SubSt) : Prop :=
  (s.single = true → s.msgCount ≤ 1 ∧ s.messages = [] ∧ (s.msgCount = 1 → s.result = none)) ∧
  (s.single = false → s.result = none)

theorem simpleInit_inv (n : Nat) (r : Bool) : SimpleInv (simpleInit n r) := by
  unfold SimpleInv simpleInit
  by_cases h : n = 1 <;> simp [h]

theorem onMessageSimple_cases (s : SubSt) (m : InMsg) (h : SimpleInv s) :
    ((s.msgCount = 0 ∨ keep s.retained m = false) ∧ Helpers.onMessageSimple s m = s) ∨
    ((s.msgCount = 1 ∧ keep s.retained m = true ∧ s.single = true ∧ s.result = none ∧ s.messages = []) ∧
      Helpers.onMessageSimple s m = { s with msgCount := 0, result := some m, disconnected := true }) ∨
    ((s.msgCount ≠ 0 ∧ keep s.retained m = true ∧ s.single = false ∧ s.result = none) ∧
      Helpers.onMessageSimple s m = { s with msgCount := s.msgCount - 1, messages := s.messages ++ [m],
                                              disconnected := s.disconnected || decide (s.msgCount = 1) }) := by
  by_cases h0 : s.msgCount = 0
  · exact .inl ⟨.inl h0, onMessageSimple_skip s m (.inl h0)⟩
  by_cases hk : keep s.retained m = true
  · by_cases hs : s.single = true
    · obtain ⟨hle, hm, hr⟩ := h.1 hs
      have h1 : s.msgCount = 1 := (Nat.le_one_iff_eq_zero_or_eq_one.1 hle).resolve_left h0
      exact .inr (.inl ⟨⟨h1, hk, hs, hr h1, hm⟩, onMessageSimple_one s m h1 hk hs (hr h1)⟩)
    · have hs := Bool.eq_false_iff.2 hs
      exact .inr (.inr ⟨⟨h0, hk, hs, h.2 hs⟩, onMessageSimple_list s m h0 hk hs⟩)
  · have hk := Bool.eq_false_iff.2 hk
    exact .inl ⟨.inr hk, onMessageSimple_skip s m (.inr hk)⟩

theorem onMessageSimple_inv (s : SubSt) (m : InMsg) (h : SimpleInv s) :
    SimpleInv (Helpers.onMessageSimple s m) := by
  rcases onMessageSimple_cases s m h with ⟨_, e⟩ | ⟨⟨_, _, hs, _, hm⟩, e⟩ | ⟨⟨_, _, hs, hr⟩, e⟩ <;> rw [e]
  · exact h
  · exact ⟨fun _ => ⟨Nat.zero_le 1, hm, nofun⟩, fun h' => absurd (hs.symm.trans h') nofun⟩
  · exact ⟨fun h' => absurd (hs.symm.trans h') nofun, fun _ => hr⟩

/-- the calls `_on_message_simple` makes on the client: `disconnect()` exactly when the message is kept and it is the last
one wanted -/
def simpleEffs (s : SubSt) (m : InMsg) : List HEff :=
  if s.msgCount = 1 ∧ ¬ (m.retain = true ∧ s.retained = false) then [.disconnect] else []

/-- **`subscribe._on_message_simple` as the source has it now = the model's `onMessageSimple`** in every state
subscribe.simple can be in: no exception is raised, and `disconnect()` is called exactly when the model sets its flag -/
theorem fn_onMessageSimple (tag : InMsg → Nat) (s : SubSt) (m : InMsg) (h : SimpleInv s) :
    Gen.Fn.onMessageSimple (absUD tag s) (absIn tag m)
      = .ok (absUD tag (Helpers.onMessageSimple s m), simpleEffs s m) ∧
    (Helpers.onMessageSimple s m).disconnected = (s.disconnected || !(simpleEffs s m).isEmpty) := by
  have hkeep : (m.retain && !s.retained) = !keep s.retained m := by
    unfold keep; cases s.retained <;> cases m.retain <;> rfl
  have heff : ¬ (m.retain = true ∧ s.retained = false) ↔ keep s.retained m = true := by
    unfold keep; cases s.retained <;> cases m.retain <;> decide
  have hz := natCast_beq_zero s.msgCount
  unfold Gen.Fn.onMessageSimple simpleEffs
  rcases onMessageSimple_cases s m h with ⟨hskip, e⟩ | ⟨⟨h1, hk, hs, hr, hm⟩, e⟩ | ⟨⟨h0, hk, hs, hr⟩, e⟩ <;> rw [e]
  · by_cases h0 : s.msgCount = 0
    · simp [absUD, h0]
    · simp [absUD, absIn, hz, h0, hkeep, heff, hskip.resolve_left h0]
  · simp [absUD, absIn, h1, hkeep, heff, hk, hs, hr, PyMsgs.isNone]
  · have h1z : ((s.msgCount : Int) - 1 == 0) = decide (s.msgCount = 1) := by
      rw [Bool.beq_eq_decide_eq, decide_eq_decide, Int.sub_eq_zero]; exact Int.ofNat_inj (n := 1)
    have hc : ((s.msgCount - 1 : Nat) : Int) = (s.msgCount : Int) - 1 := Int.ofNat_sub (Nat.pos_of_ne_zero h0)
    by_cases h1 : s.msgCount = 1
    · simp [absUD, absIn, h1, hkeep, heff, hk, hs, PyMsgs.isNone,
        PyMsgs.append]
    · simp [absUD, absIn, hz, h1z, hc, h0, h1, hkeep, heff, hk, hs,
        PyMsgs.isNone, PyMsgs.append]

/-- the hypothesis of `fn_onMessageSimple` holds in every state subscribe.simple reaches -/
theorem simple_inv (n : Nat) (r : Bool) (arrivals : List InMsg) : SimpleInv (simple n r arrivals) := by
  unfold simple
  suffices h : ∀ s, SimpleInv s → SimpleInv (arrivals.foldl Helpers.onMessageSimple s) from h _ (simpleInit_inv n r)
  induction arrivals with
  | nil => intro s hs; exact hs
  | cons a rest ih => intro s hs; exact ih _ (onMessageSimple_inv s a hs)

/-- **`subscribe._on_connect` as the source has it now**: a refused CONNACK raises; otherwise the helper subscribes to the
given topics, in list order, with the given QoS, and does nothing else (C20: 'subscribes to the given topics') -/
theorem fn_subOnConnect (ud : SubUD) (rc : Int) :
    Gen.Fn.subOnConnect ud rc =
      if rc ≠ 0 then .error .mqttException
      else .ok (ud, match ud.topics with
                    | .list l => l.map (fun t => HEff.subscribe (.single t) ud.qos)
                    | .single t => [HEff.subscribe (.single t) ud.qos]) := by
  unfold Gen.Fn.subOnConnect
  by_cases h : rc = 0
  · cases ht : ud.topics <;> simp [h, ht, PyTopics.isList, PyTopics.items]
  · have h' : (rc != 0) = true := by simpa using h
    simp [h, h']

/-! ### publish.py -/

/-- an element of `msgs` as `_do_publish` sees it: `form` is what `isinstance` reports, `tag` its contents -/
def absPub (form : Msg → PyForm) (tag : Msg → Nat) (m : Msg) : PyPubMsg := { form := form m, tag := tag m }

/-- the call `_do_publish` makes for a message -/
def pubEff (form : Msg → PyForm) (tag : Msg → Nat) (m : Msg) : HEff :=
  if form m = .dict then .publishKw (absPub form tag m) else .publishArgs (absPub form tag m)

/-- every message is a dict, a tuple or a list (anything else: `fn_doPublish_other`) -/
def formsOk (form : Msg → PyForm) : Prop := ∀ m, form m = .dict ∨ form m = .seq

/-- **`publish._do_publish` as the source has it now = the model's `doPublish`**: the head of the deque is removed and handed
to `client.publish()` (as keyword arguments for a dict, as positional arguments for a tuple / list); on an empty deque
`popleft()` raises IndexError (the callers test the length first) -/
theorem fn_doPublish (form : Msg → PyForm) (tag : Msg → Nat) (hf : formsOk form) (s : PubSt) :
    Gen.Fn.doPublish (s.queue.map (absPub form tag)) =
      match s.queue with
      | [] => .error .indexError
      | m :: _ => .ok ((Helpers.doPublish s).queue.map (absPub form tag), [pubEff form tag m]) := by
  unfold Gen.Fn.doPublish
  cases hq : s.queue with
  | nil => simp [popleft]
  | cons m rest =>
    rcases hf m with h | h <;>
      simp [popleft, Helpers.doPublish, hq, absPub, pubEff, h]

/-- a message that is neither a dict nor a tuple / list makes `_do_publish` raise TypeError -/
theorem fn_doPublish_other (m : PyPubMsg) (rest : List PyPubMsg) (h : m.form = .other) :
    Gen.Fn.doPublish (m :: rest) = .error .typeError := by
  unfold Gen.Fn.doPublish
  simp [popleft, h]

/-- **`publish._on_connect` = the model's `onConnect`**: an accepted CONNACK publishes the first message (if any), a refused
one raises MQTTException -/
theorem fn_pubOnConnect (form : Msg → PyForm) (tag : Msg → Nat) (hf : formsOk form) (s : PubSt) (rc : Nat) :
    Gen.Fn.pubOnConnect (s.queue.map (absPub form tag)) (rc : Int) =
      match Helpers.onConnect s rc with
      | .error _ => .error .mqttException
      | .ok s' => .ok (s'.queue.map (absPub form tag), (s.queue.take 1).map (pubEff form tag)) := by
  unfold Gen.Fn.pubOnConnect Helpers.onConnect
  by_cases h : rc = 0
  · subst h
    cases hq : s.queue with
    | nil => simp [hq]
    | cons m rest =>
      have := fn_doPublish form tag hf s
      rw [hq] at this
      simp only [List.map_cons] at this
      simp [this]
  · simp [h, natCast_beq_zero]

/-- **`publish._on_publish` = the model's `onPublish`**: with the deque empty the helper calls `disconnect()`, otherwise it
publishes the next message -/
theorem fn_pubOnPublish (form : Msg → PyForm) (tag : Msg → Nat) (hf : formsOk form) (s : PubSt) :
    Gen.Fn.pubOnPublish (s.queue.map (absPub form tag)) =
      .ok ((Helpers.onPublish s).queue.map (absPub form tag),
           match s.queue with
           | [] => [HEff.disconnect]
           | m :: _ => [pubEff form tag m]) ∧
    (Helpers.onPublish s).disconnected = (s.disconnected || s.queue.isEmpty) := by
  unfold Gen.Fn.pubOnPublish Helpers.onPublish
  cases hq : s.queue with
  | nil => simp
  | cons m rest =>
    have := fn_doPublish form tag hf s
    rw [hq] at this
    simp only [List.map_cons] at this
    have hne : ((((rest.length : Int) + 1) == 0) = false) :=
      (natCast_beq_zero (rest.length + 1)).trans (decide_eq_false (Nat.succ_ne_zero _))
    simp [this, hq, hne, Helpers.doPublish]

end Paho.FnEq
