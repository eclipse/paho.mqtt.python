/-
T1 (C19): `Client._filter_wildcard_len_check` and `Client._raise_for_invalid_topic`, translated statement by statement
from the AST of the current source (py/py2lean.py → Paho.Gen.FnValidate), equal the model's `filterCheck` /
`topicInvalid` for ALL byte strings - so `c19_filter` (accepted filters = the MQTT grammar) is a theorem about the test
the source contains now, not only about its extracted literals.
-/
import Paho.Gen.FnValidate
import PahoProofs.Lemmas.Validate
import PahoProofs.Lemmas.NatCast

namespace Paho.FnEq
open Paho Paho.Gen.Fn

/-- **`_filter_wildcard_len_check` as the source has it now**: MQTT_ERR_SUCCESS (0) exactly when the model's `filterCheck`
accepts, MQTT_ERR_INVAL (3) otherwise -/
theorem fn_filterWildcardLenCheck (sub : Bytes) :
    filterWildcardLenCheck sub = .ok (if filterCheck sub then 0 else 3) := by
  have hany : (fun p : Bytes => decide ((p.length : Int) > 1) && (p.contains 43 || p.contains 35)) = lvlBad :=
    funext fun p => congrArg (· && _) (natCast_gt p.length 1)
  have e65535 : (65535 : Int) = ((65535 : Nat) : Int) := rfl
  rw [filterCheck_eq]
  unfold filterWildcardLenCheck
  dsimp only
  rw [hany, natCast_beq_zero, e65535, natCast_gt]
  show (if filterBad sub = true then Except.ok 3 else Except.ok 0) = Except.ok (if (!filterBad sub) = true then 0 else 3)
  cases filterBad sub <;> rfl

/-- **`_raise_for_invalid_topic` as the source has it now**: raises ValueError exactly when the model's `topicInvalid`
says so -/
theorem fn_raiseForInvalidTopic (topic : Bytes) :
    raiseForInvalidTopic topic = if topicInvalid topic then .error .valueError else .ok () := by
  have e65535 : (65535 : Int) = ((65535 : Nat) : Int) := rfl
  unfold raiseForInvalidTopic
  dsimp only
  rw [e65535, natCast_gt]
  show _ = if ((topic.contains 43 || topic.contains 35) || decide (topic.length > 65535)) = true then _ else _
  cases (topic.contains 43 || topic.contains 35) <;> cases decide (topic.length > 65535) <;> rfl

end Paho.FnEq
