/-
C07, section A — packet ids under `_mid_generate_mutex` and critical sections over a lock-protected variable, over ALL
schedules of the interleaving models `MidSys` / `SecSys` (Paho/Model/Threads.lean).

The id-generator proofs depend on `Gen.midGenUnderLock = true` (extracted from `Client._mid_generate`): without the
mutex `enter` does not preserve `ThrMid.MInv` and they stop checking.
-/
import Paho.Model.Threads
import PahoProofs.Properties.C14
import PahoProofs.Lemmas.ThrMid
import PahoProofs.Lemmas.ThrSec
namespace Paho.Thr
open Paho

/-- under every schedule the ids come out exactly as in the sequential run, in the order of the `leave` actions -/
theorem c07_mid_sequential (l0 : Nat) (sched : List (Tid × MAct)) :
    let s := MidSys.run { last := l0 } sched
    (s.rets.reverse.map (·.2)) = midSeq l0 s.rets.length :=
  ((ThrMid.MInv.init l0).run sched).seq

/-- all returned mids are distinct (up to a full cycle of the 16-bit id space) -/
theorem c07_mids_distinct (l0 : Nat) (h : l0 ≤ 65535) (sched : List (Tid × MAct)) :
    let s := MidSys.run { last := l0 } sched
    s.rets.length ≤ 65535 → (s.rets.map (·.2)).Nodup := by
  intro s hlen
  have hseq : (s.rets.reverse.map (·.2)) = midSeq l0 s.rets.length := c07_mid_sequential l0 sched
  have hnd := ThrMid.midSeq_nodup l0 s.rets.length h hlen
  rw [← hseq, List.map_reverse, List.Nodup, List.pairwise_reverse] at hnd
  exact hnd.imp (fun hab => Ne.symm hab)

/-- at most one thread is inside the generator -/
theorem c07_mid_mutex (l0 : Nat) (sched : List (Tid × MAct)) (t u : Tid) :
    let s := MidSys.run { last := l0 } sched
    s.pc t ≠ .idle → s.pc u ≠ .idle → t = u :=
  fun ht hu => ((ThrMid.MInv.init l0).run sched).unique hu ht

-- non-vacuity: two threads interleaved (one blocked on the mutex meanwhile) return 1 and 2
example : ((MidSys.run {} [(1, .enter), (2, .enter), (1, .load), (2, .load), (1, .store), (1, .leave), (2, .enter), (2, .load), (2, .store), (2, .leave)]).rets.map (·.2)) = [2, 1] := by decide

/-- any interleaving = the sections executed one after the other in the order of their releases -/
theorem c07_sections_serialize {σ : Type} (x0 : σ) (progs : Tid → List (List (σ → σ))) (sched : List (Tid × SAct)) :
    let s := (SecSys.init x0 progs).run sched
    s.committed = applyAll (s.log.map (·.2)).flatten x0 ∧ (s.owner = none → s.shared = s.committed) :=
  have hinv := (ThrSec.SInv.init x0 progs).run sched
  ⟨hinv.comm, hinv.free⟩

/-- ... and a thread's sections are logged in program order: the completed ones are a prefix of its program -/
theorem c07_sections_program_order {σ : Type} (x0 : σ) (progs : Tid → List (List (σ → σ))) (sched : List (Tid × SAct)) (t : Tid) :
    let s := (SecSys.init x0 progs).run sched
    ∃ rest, progs t = ((s.log.filter (·.1 = t)).map (·.2)) ++ rest ∧ (rest.length = (s.thr t).todo.length) := by
  intro s
  have hinv : ThrSec.SInv x0 progs s := (ThrSec.SInv.init x0 progs).run sched
  by_cases ho : s.owner = some t
  · obtain ⟨done, rem, rest, _, htd, _, hpr⟩ := hinv.own t ho
    exact ⟨s.cur :: rest, hpr, by rw [htd]; rfl⟩
  · exact ⟨(s.thr t).todo, hinv.other t ho, rfl⟩

/-- when every thread has finished, the protected state is the sequential result of all sections in log order -/
theorem c07_sections_final {σ : Type} (x0 : σ) (progs : Tid → List (List (σ → σ))) (sched : List (Tid × SAct)) :
    let s := (SecSys.init x0 progs).run sched
    (∀ t, (s.thr t).todo = []) → s.shared = applyAll (s.log.map (·.2)).flatten x0 := by
  intro s hall
  have hinv : ThrSec.SInv x0 progs s := (ThrSec.SInv.init x0 progs).run sched
  have hnone : s.owner = none := by
    cases ho : s.owner with
    | none => rfl
    | some t =>
      obtain ⟨done, rem, rest, _, htd, _, _⟩ := hinv.own t ho
      rw [hall t] at htd
      cases htd
  rw [hinv.free hnone]
  exact hinv.comm

end Paho.Thr
