/-
The MQTT packet reader over the WebSocket transport: `Client._packet_read` when `self._sock` is the
`_WebsocketWrapper` (transport="websockets"). `_sock_recv(n)` is `self._sock.recv(n)` = `_recv_impl(n)`:
* bytes            -> the reader consumes them;
* BlockingIOError  -> `_packet_read` returns MQTT_ERR_AGAIN (also when the wrapper only consumed a control frame);
* b'' (the wrapper caught a ConnectionError and set `connected = False`) -> `len(...) == 0` -> MQTT_ERR_CONN_LOST.

`packetReadOn recv` is `packetRead` (Paho.Model.Reader) with the socket abstracted to any transport
`recv : Nat → τ → RecvRes × τ`; `packetRead = packetReadOn recvN` is proved in
PahoProofs/Properties/C05.lean (`packetRead_eq_packetReadOn`, from `packetReadOn_recvN`). `drainOn` is the pump `drain` of C05 over such a
transport. Core Lean only.
-/
import Paho.Model.Reader
import Paho.Model.Ws
namespace Paho

section generic
variable {τ : Type} (recv : Nat → τ → RecvRes × τ)

/-- phase 3 over an abstract transport (same text as `readBody`) -/
def readBodyOn : (count : Nat) → RState → τ → RState × τ × ReadOut
  | 0, r, t => (r, t, .again)
  | count + 1, r, t =>
    if r.toProcess = 0 then (r, t, .complete r.command r.packet)
    else
      match recv r.toProcess t with
      | (.block, t) => (r, t, .again)
      | (.closed, t) | (.error, t) => (r, t, .connLost)
      | (.bytes d, t) =>
        if d.isEmpty then (r, t, .connLost)
        else
          let r := { r with toProcess := r.toProcess - d.length, packet := r.packet ++ d }
          if count = 0 then (r, t, .againBusy)
          else readBodyOn count r t

/-- phase 2 over an abstract transport (same text as `readRemLen`) -/
def readRemLenOn : (fuel : Nat) → RState → τ → RState × τ × Option ReadOut
  | 0, r, t => (r, t, some .protocol)
  | fuel + 1, r, t =>
    match recv 1 t with
    | (.block, t) => (r, t, some .again)
    | (.closed, t) | (.error, t) => (r, t, some .connLost)
    | (.bytes d, t) =>
      match d with
      | [] => (r, t, some .connLost)
      | byte :: _ =>
        let r := { r with remCount := r.remCount + 1 }
        if Gen.rlMaxBytesCmp.evalNat r.remCount Gen.rlMaxBytes then (r, t, some .protocol)
        else
          let r := { r with remLen := r.remLen + (byte.toNat &&& 127) * r.remMult, remMult := r.remMult * 128 }
          if byte.toNat &&& 128 = 0 then
            ({ r with haveRemaining := true, toProcess := r.remLen }, t, none)
          else readRemLenOn fuel r t

/-- `_packet_read()` over an abstract transport (same text as `packetRead`) -/
def packetReadOn (r : RState) (t : τ) : RState × τ × ReadOut :=
  let p1 : RState × τ × Option ReadOut :=
    if r.command = 0 then
      match recv 1 t with
      | (.block, t) => (r, t, some .again)
      | (.closed, t) | (.error, t) => (r, t, some .connLost)
      | (.bytes d, t) =>
        match d with
        | [] => (r, t, some .connLost)
        | c :: _ =>
          if c.toNat = 0 then (r, t, some .protocol) else ({ r with command := c.toNat }, t, none)
    else (r, t, none)
  match p1 with
  | (r, t, some out) => (r, t, out)
  | (r, t, none) =>
    let p2 : RState × τ × Option ReadOut :=
      if !r.haveRemaining then readRemLenOn recv 6 r t else (r, t, none)
    match p2 with
    | (r, t, some out) => (r, t, out)
    | (r, t, none) => readBodyOn recv Gen.readLoopMax r t

/-- how a sequence of `_packet_read()` calls ends (`DrainEnd` of C05) -/
inductive PumpEnd where
  | idle | connLost | protocol
  deriving DecidableEq, Repr

/-- the pump of C05 (`drain`) over an abstract transport; `idle t`: nothing can come out of the transport any more.
Returns the packets handed to `_packet_handle`, the reader state, the transport state and how it ended. -/
def drainOn (idle : τ → Bool) : (fuel : Nat) → RState → τ → List (Nat × Bytes) →
    List (Nat × Bytes) × RState × τ × PumpEnd
  | 0, r, t, acc => (acc, r, t, .idle)
  | fuel + 1, r, t, acc =>
    if idle t = true ∧ ¬ (r.haveRemaining ∧ r.toProcess = 0) then (acc, r, t, .idle)
    else
      match packetReadOn recv r t with
      | (r, t, .again) => if idle t then (acc, r, t, .idle) else drainOn idle fuel r t acc
      | (r, t, .againBusy) => drainOn idle fuel r t acc
      | (r, t, .connLost) => (acc, r, t, .connLost)
      | (r, t, .protocol) => (acc, r, t, .protocol)
      | (_, t, .complete cmd body) => drainOn idle fuel {} t (acc ++ [(cmd, body)])

end generic

/-! ### the WebSocket transport -/

/-- the wrapper, its raw socket, and everything the wrapper wrote to the raw socket (PONG / CLOSE replies) -/
structure WsT where
  st : Ws.RecvSt := {}
  q : List RecvItem := []
  sent : List Bytes := []
  deriving DecidableEq, Repr

/-- `self._sock.recv(n)` with `self._sock` the `_WebsocketWrapper`, as `_sock_recv` / `_packet_read` see it -/
def wsRecv (n : Nat) (t : WsT) : RecvRes × WsT :=
  match Ws.recvImpl t.st t.q n with
  | (st, q, res, s) =>
    let t' : WsT := { st := st, q := q, sent := t.sent ++ s }
    match res with
    | .data b => (.bytes b, t')          -- (b'' only for n = 0; the reader then reports CONN_LOST, as the code does)
    | .wouldBlock => (.block, t')
    | .closed => (.closed, t')           -- b'' with `connected = False`

/-- raw socket empty and nothing buffered in the wrapper -/
def wsIdle (t : WsT) : Bool := t.q.isEmpty && t.st.readbuffer.isEmpty

def packetReadWs (r : RState) (t : WsT) : RState × WsT × ReadOut := packetReadOn wsRecv r t

def drainWs (fuel : Nat) (r : RState) (t : WsT) (acc : List (Nat × Bytes)) :
    List (Nat × Bytes) × RState × WsT × PumpEnd := drainOn wsRecv wsIdle fuel r t acc

end Paho
